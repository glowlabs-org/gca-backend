-- Root of the `Gca` library: model, codecs, ties, property theorems, driver.
import Gca.Basic
import Gca.Hex
import Gca.FMap
import Gca.Codec.Report
import Gca.Codec.Auth
import Gca.Codec.AuthServer
import Gca.Codec.Stats
import Gca.Codec.ServerMap
import Gca.Timeslot
import Gca.RateLimiter
import Gca.EventLog
import Gca.Server.Model
import Gca.Server.Ops
import Gca.Server.Effects
import Gca.Server.InvParts
import Gca.Server.Load
import Gca.Server.Inv
import Gca.Server.Mirrors
import Gca.Generated.Guards
import Gca.Generated.Tables
import Gca.Tie.Guards
import Gca.Tie.Tables
import Gca.Props.C02
import Gca.Props.C15
import Gca.Props.C18
import Gca.Props.C19
import Gca.Props.C20
import Gca.Client.Model
import Gca.Client.Lemmas
import Gca.Props.C01
import Gca.Props.C03
import Gca.Props.C06
import Gca.Props.C07
import Gca.Props.C09
import Gca.Props.C12
import Gca.Props.C16
import Gca.LockSkel
import Gca.LockSkelSound
import Gca.Props.C04
import Gca.Props.C10
import Gca.Props.C11
import Gca.Props.C17
import Gca.Generated.Locks
import Gca.Tie.Locks
import Gca.Props.C05
import Gca.Props.C08
import Gca.Props.C13
import Gca.Props.C13Rot
import Gca.Props.C14
import Gca.Lemmas.C14Cex
import Gca.Props.DiskBytes
import Gca.Props.DiskTorn
import Gca.Driver.Main
