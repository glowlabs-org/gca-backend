import Gca.Codec.ServerMap
import Gca.Tie.Tables
/-
C15 - Wire and disk encodings are exact, stable and unambiguous.

The encoders of `Gca/Codec/*` are, by definition, the documented layouts (little-endian
fixed-width fields, ASCII prefix for signing bytes); `Gca/Tie/Tables.lean` ties
offsets, widths, field order and prefixes to the Go source, and the
correspondence run compares bytes with the Go encoders. Here: every decoder
inverts its encoder, wrong lengths are refused, signing bytes determine the
signed fields, and signing bytes of different message types never coincide.
Cryptographic strength of the signature scheme itself (a flipped bit makes
verification fail) is an assumption about secp256k1/Keccak, checked by execution.
-/
namespace Gca.C15

theorem c15h_report_roundtrip (r : Report) (h : r.WF) : Report.decode (Report.encode r) = some r :=
  Report.decode_encode r h
theorem c15h_report_wrong_length (b : Bytes) (h : b.length ≠ 80) : Report.decode b = none := by
  simp [Report.decode, h]
theorem c15h_report_canonical (b : Bytes) (r : Report) (h : Report.decode b = some r) : Report.encode r = b := by
  obtain ⟨hl, rfl⟩ := Report.decode_eq_some.1 h
  simp only [Report.encode]
  rw [leBytes_unle (by simp [hl]), leBytes_unle (by simp [hl]), leBytes_unle (by simp [hl])]
  have : b.drop 16 = (b.drop 8).drop 8 := by simp
  rw [this, List.take_append_drop]
  have : b.drop 8 = (b.drop 4).drop 4 := by simp
  rw [this, List.take_append_drop, List.take_append_drop]

theorem c15h_auth_roundtrip (a : Auth) (h : a.WF) : Auth.decode (Auth.encode a) = some a :=
  Auth.decode_encode a h
theorem c15h_auth_wrong_length (b : Bytes) (h : b.length ≠ 148) : Auth.decode b = none := by
  simp [Auth.decode, h]

/-- Authorized servers (wire form inside sync replies and migration orders). -/
theorem c15h_authServers_roundtrip (as : List AuthServer) (h : ∀ a ∈ as, a.WF) :
    AuthServer.decodeList (AuthServer.encodeList as).length (AuthServer.encodeList as) = some as :=
  AuthServer.decodeList_encodeList h (Nat.le_refl _)

/-- Weekly statistics stream: any number of concatenated records decodes back. -/
theorem c15h_stats_stream_roundtrip (ws : List Week) (h : ∀ w ∈ ws, w.WF) :
    decodeStream ws.length (encodeStream ws) = some ws :=
  decodeStream_encodeStream h (Nat.le_refl _)

/-- Client server map: every list of well-formed entries is encodable and decodes back. -/
theorem c15h_serverMap_roundtrip (es : List CEntry) (h : ∀ e ∈ es, CServer.WF e) :
    ∃ b, CServer.encodeMap es = some b ∧ CServer.decodeMap b.length b = some es := by
  obtain ⟨b, hb, hd⟩ := CServer.encodeMap_some h
  exact ⟨b, hb, hd b.length (Nat.le_refl _)⟩

/-- ... and a location longer than 65535 bytes is refused. -/
theorem c15h_serverMap_refuses_long (e : CEntry) (es : List CEntry) (h : e.2.loc.length > 0xFFFF) :
    CServer.encodeMap (e :: es) = none := by
  simp [CServer.encodeMap, h]

theorem c15h_report_signing_injective (r s : Report) (hr : r.WF) (hs : s.WF)
    (h : Report.signingBytes r = Report.signingBytes s) : r.id = s.id ∧ r.ts = s.ts ∧ r.p = s.p := by
  have e := Report.decode_body r hr (zeros 64) zeros_length
  rw [List.append_cancel_left h, Report.decode_body s hs _ zeros_length] at e
  have e := (Option.some.inj e).symm
  exact ⟨congrArg (·.id) e, congrArg (·.ts) e, congrArg (·.p) e⟩

theorem c15h_auth_signing_injective (a b : Auth) (ha : a.WF) (hb : b.WF)
    (h : Auth.signingBytes a = Auth.signingBytes b) : { a with sig := [] } = { b with sig := [] } := by
  have e := Auth.decode_body a ha (zeros 64) zeros_length
  rw [List.append_cancel_left h, Auth.decode_body b hb _ zeros_length] at e
  exact congrArg (fun x : Auth => { x with sig := [] }) (Option.some.inj e).symm

theorem c15h_registration_signing_injective (k k' : Bytes)
    (h : Registration.signingBytes k = Registration.signingBytes k') : k = k' :=
  List.append_cancel_left h

/-- Authorized server: with a location that fits the one-byte length field the
signing bytes determine every signed field. -/
theorem c15h_authServer_signing_injective (a b : AuthServer) (ha : a.WF) (hb : b.WF)
    (h : AuthServer.signingBytes a = AuthServer.signingBytes b) : { a with sig := [] } = { b with sig := [] } := by
  have e := AuthServer.decode1_body a ha (zeros 64) [] zeros_length
  rw [List.append_cancel_left h, AuthServer.decode1_body b hb _ _ zeros_length] at e
  exact congrArg (fun x : AuthServer × Bytes => { x.1 with sig := [] }) (Option.some.inj e).symm

/-- Any location length that is a non-zero multiple of 256 gives a collision. -/
theorem c15h_authServer_ambiguous_aux (n : Nat) (hn : n ≠ 0) (hm : n % 256 = 0) :
    ∃ a b : AuthServer, a ≠ b ∧ AuthServer.signingBytes a = AuthServer.signingBytes b := by
  refine ⟨⟨[], false, List.replicate n 0, 0, 0, 0, []⟩,
          ⟨List.replicate n 0, false, [], 0, 0, 0, []⟩, ?_, ?_⟩
  · intro h
    have := congrArg (fun s => s.key.length) h
    simp only [List.length_replicate] at this
    exact hn this.symm
  · simp only [AuthServer.signingBytes, AuthServer.body, leBytes,
      List.length_replicate, List.length_nil, hm]
    congr 1
    -- two zeros, `n` zeros, six zeros on the left; `n` zeros, eight zeros on the right
    show List.replicate 2 (0:UInt8) ++ (List.replicate n 0 ++ List.replicate 6 0) =
      List.replicate n 0 ++ List.replicate 8 0
    simp only [List.replicate_append_replicate]
    congr 1
    omega

/-- Without `WF` the signing bytes do not determine the value: a 256-byte location, whose length byte
wraps to 0, passes for a 256-byte key in front of an empty location. The two values differ in the
length of `key`, which the Go type (`[32]byte`) fixes; what the bound on the location protects is the
wire format, where `decode1` finds the end of an entry from the length byte. -/
theorem c15h_authServer_ambiguous_beyond_255 :
    ∃ a b : AuthServer, a ≠ b ∧ AuthServer.signingBytes a = AuthServer.signingBytes b :=
  c15h_authServer_ambiguous_aux 256 (by decide) rfl

theorem c15h_migration_signing_injective (m n : Migration) (hm : m.WF) (hn : n.WF)
    (h : Migration.signingBytes m = Migration.signingBytes n) : { m with sig := [] } = { n with sig := [] } := by
  have hb : Migration.body m = Migration.body n := List.append_cancel_left h
  obtain ⟨m1, m2, m3, m4, _⟩ := hm
  obtain ⟨n1, n2, n3, n4, _⟩ := hn
  obtain ⟨e1, ht⟩ := List.append_inj hb (by rw [m1, n1])
  obtain ⟨e2, ht⟩ := List.append_inj ht (by rw [m2, n2])
  obtain ⟨e3, e4⟩ := List.append_inj ht (by simp)
  have e3 := leBytes_inj (by simpa using m3) (by simpa using n3) e3
  have e4' := c15h_authServers_roundtrip m.servers m4
  rw [e4, c15h_authServers_roundtrip n.servers n4] at e4'
  rw [e1, e2, e3, ← Option.some.inj e4']

theorem c15h_week_signing_injective (w v : Week) (hw : w.WF) (hv : v.WF)
    (h : Week.signingBytes w = Week.signingBytes v) : w.devs = v.devs ∧ w.tso = v.tso := by
  have e := Week.decode1_body w hw (zeros 64) [] zeros_length
  rw [List.append_cancel_left h, Week.decode1_body v hv _ _ zeros_length] at e
  have e := (Option.some.inj e).symm
  exact ⟨congrArg (·.1.devs) e, congrArg (·.1.tso) e⟩

theorem c15h_append_eq_prefix {a b x y : Bytes} (h : a ++ x = b ++ y) :
    a.isPrefixOf b = true ∨ b.isPrefixOf a = true := by
  rcases List.append_eq_append_iff.1 h with ⟨_, rfl, -⟩ | ⟨_, rfl, -⟩
  · exact .inl (List.isPrefixOf_iff_prefix.2 (List.prefix_append _ _))
  · exact .inr (List.isPrefixOf_iff_prefix.2 (List.prefix_append _ _))

/-- For any two distinct message types (report, authorization, registration,
authorized server, migration order, weekly statistics), whatever follows the
prefixes, the signing bytes differ. -/
theorem c15h_types_disjoint (i j : Fin Tie.allPrefixes.length) (hij : i ≠ j) (x y : Bytes) :
    ascii (Tie.allPrefixes.get i) ++ x ≠ ascii (Tie.allPrefixes.get j) ++ y := by
  intro h
  rcases c15h_append_eq_prefix h with h3 | h3
  · exact Bool.false_ne_true ((Tie.prefixes_prefix_free i j hij).symm.trans h3)
  · exact Bool.false_ne_true ((Tie.prefixes_prefix_free j i (Ne.symm hij)).symm.trans h3)

/-- Instance: a report can never be passed off as an authorization (and so on for every pair). -/
theorem c15h_report_vs_auth (r : Report) (a : Auth) : Report.signingBytes r ≠ Auth.signingBytes a :=
  c15h_types_disjoint ⟨0, by decide⟩ ⟨1, by decide⟩ (by decide) _ _

/-- Non-vacuity: the documented bytes of a concrete report. -/
example : Report.encode ⟨1, 2, 3, zeros 64⟩ = [1,0,0,0, 2,0,0,0, 3,0,0,0,0,0,0,0] ++ zeros 64 := by decide

end Gca.C15
