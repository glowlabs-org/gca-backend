import Gca.Props.C17
/-
C11 - No server behaviour can crash, wedge or mislead the client (the part a
model can carry). Panic-freedom of the reply parser: every slice the Go code
takes is inside the buffer once the length guard (tie `reply_min_length`: 712)
has passed, and the server-entry loop only reads what its two length checks
have established. Lock release on every path is decided on the regenerated lock
skeletons (Gca/Tie/Locks.lean). Of "keeps emitting reports and syncs again later" the part
about the scheduling counter is proved (`c11_retry_after_failure`, `c11_sync_at_least_every_60`:
a round is started within 4 iterations after a failed one and at least every 60); that the loop
keeps iterating at all is liveness and is exercised by execution only.
-/
namespace Gca.Cl

/-- With the length guard passed, every fixed offset used by the parser is within the reply. -/
theorem c11_fixed_offsets (n : Nat) (h : 712 ≤ n) :
    72 ≤ n ∧ 64 ≤ n ∧ 136 ≤ n ∧ 576 ≤ n - 136 ∧ 540 ≤ n - 136 ∧ (n - 136) + 64 = n - 72 ∧ (n - 72) + 8 = n - 64 := by
  omega

/-- One iteration of the entry loop consumes exactly the bytes of the entry it
returns (never reads beyond its input), and at least 104 of them. -/
theorem c11_entry_consumes (b r : Bytes) (a : AuthServer) (h : AuthServer.decode1 b = some (a, r)) :
    b.length = r.length + 104 + a.loc.length ∧ a.loc.length < 256 ∧ a.key.length = 32 ∧ a.sig.length = 64 := by
  have hll := unle_take_lt 1 (b.drop 33)
  simp [AuthServer.decode1, rd] at h
  obtain ⟨_, _, rfl, rfl⟩ := h
  simp only [List.length_drop, List.length_take] at *
  omega

/-- The parser is a total function of the bytes: for every byte string it
either refuses or returns values whose sizes are the documented ones. -/
theorem c11_parse_sizes (V : Verify) (ck gk sk : Key) (now : Nat) (resp : Bytes) (p : Parsed)
    (h : parseReply V ck gk sk now resp = some p) :
    p.bits.length = 504 ∧ p.newGCA.length = 32 ∧ p.off < 2^32 ∧ p.newId < 2^32 ∧ 712 ≤ resp.length := by
  obtain ⟨hn, _, _, _, _, _, _, _, _, rfl⟩ := parseReply_eq_some.1 h
  refine ⟨?_, ?_, unle_take_lt 4 _, unle_take_lt 4 _, hn⟩ <;>
    simp only [List.length_take, List.length_drop] <;> omega

/-- A round syncs only through a server that is known and not banned. -/
theorem c11_round_choice (c : Client) (choices : List (Key × Attempt)) (p : Parsed) (k : Key)
    (h : (syncRound c choices).2 = .synced p k) :
    ∃ s, c.servers.get k = some s ∧ s.banned = false := by
  obtain ⟨-, -, hsynced⟩ := attempts_spec c 5 [] choices
  rcases syncRound_cases c choices with ⟨p', k', h1, h2⟩ | ⟨h1, h2⟩
  · rw [h2] at h
    cases h
    exact (hsynced _ _ h1).2
  · rw [h2] at h
    exact absurd h (h1 p k)

/-- Whatever the attempts loop does to `primary`, it only ever points it at a server that is known and not banned. -/
theorem c11h_primary_step (c : Client) (n : Nat) (failed : List Key) (choices : List (Key × Attempt)) :
    (attempts c n failed choices).1.primary = c.primary ∨
    ∃ s, c.servers.get (attempts c n failed choices).1.primary = some s ∧ s.banned = false :=
  (attempts_spec c n failed choices).2.1

/-- A round that makes an attempt leaves the client pointed at a server that is known and not banned,
however the round ends: giving up never falls back to a banned server. -/
theorem c11_primary_after_attempt (c : Client) (n : Nat) (failed : List Key) (k : Key) (a : Attempt)
    (rest : List (Key × Attempt))
    (hany : (c.servers.any (fun p => eligible c failed p.1)) = true)
    (hb : (attempts c (n + 1) failed ((k, a) :: rest)).2 ≠ .badChoice) :
    ∃ s, c.servers.get (attempts c (n + 1) failed ((k, a) :: rest)).1.primary = some s ∧ s.banned = false := by
  unfold attempts at hb ⊢
  rw [if_neg (by simp [hany])] at hb ⊢
  by_cases he : eligible c failed k = true
  · rw [if_neg (by simp [he])]
    have hk := eligible_known he
    match a with
    | .ok p => exact hk
    | .fail => exact (attempts_spec { c with primary := k } n (k :: failed) rest).2.1.elim (fun e => e ▸ hk) id
  · rw [if_pos (by simp [he])] at hb
    exact absurd rfl hb

/-- After a round that synced, the server the client reports to is the one that answered: a reply cannot
point the client at another server (a migration replaces the list, not the choice). -/
theorem c11_primary_after_sync (c : Client) (choices : List (Key × Attempt)) (p : Parsed) (k : Key)
    (h : (syncRound c choices).2 = .synced p k) : (syncRound c choices).1.primary = k := by
  obtain ⟨-, -, hsynced⟩ := attempts_spec c 5 [] choices
  rcases syncRound_cases c choices with ⟨p', k', h1, h2⟩ | ⟨h1, h2⟩
  · rw [h2] at h ⊢
    cases h
    have := (hsynced _ _ h1).1
    simp only [adopt]
    split <;> simpa using this
  · rw [h2] at h
    exact absurd h (h1 p k)

/-- All servers banned: the round ends at once (and, by the lock skeleton, with the mutex free). -/
theorem c11_all_banned (c : Client) (choices : List (Key × Attempt))
    (h : ∀ k s, c.servers.get k = some s → s.banned = true) (hne : choices ≠ []) :
    (syncRound c choices).2 = .noServers := by
  cases choices with
  | nil => exact absurd rfl hne
  | cons ka rest =>
    obtain ⟨k, a⟩ := ka
    have hany : (c.servers.any (fun p => eligible c [] p.1)) = false := by
      rw [List.any_eq_false]
      intro q _
      simp only [eligible]
      split
      · simp
      · rename_i s hs
        simp [h _ _ hs]
    have : attempts c 5 [] ((k, a) :: rest) = (c, .noServers) := by
      simp [attempts, hany]
    simp [syncRound, this]

/-- After at most five failed attempts the round gives up; the client's identity, server list,
history and server file are exactly as before (the other two files as well: `c10_fail_keeps_state`
lists them for the attempts loop). -/
theorem c11_round_failure_keeps_state (c : Client) (choices : List (Key × Attempt))
    (h : ∀ p k, (syncRound c choices).2 ≠ .synced p k) :
    let c' := (syncRound c choices).1
    c'.gcaKey = c.gcaKey ∧ c'.shortId = c.shortId ∧ c'.servers = c.servers ∧ c'.hist = c.hist ∧
    c'.diskServers = c.diskServers := by
  intro c'
  rcases syncRound_cases c choices with ⟨p', k', h1, h2⟩ | ⟨h1, h2⟩
  · exact absurd (by rw [h2]) (h p' k')
  · have hc : c' = (attempts c 5 [] choices).1 := by show (syncRound c choices).1 = _; rw [h2]
    rw [hc, (attempts_spec c 5 [] choices).1]
    exact ⟨rfl, rfl, rfl, rfl, rfl⟩

/-- Knowledge that a server is banned is never lost by a round that keeps the
GCA (a migration replaces the list by the new GCA's, see C17). -/
theorem c11_ban_knowledge_kept (c : Client) (choices : List (Key × Attempt)) (k : Key) (e : CServer)
    (h : c.servers.get k = some e) (hb : e.banned = true)
    (hg : (syncRound c choices).1.gcaKey = c.gcaKey) :
    ∃ e', (syncRound c choices).1.servers.get k = some e' ∧ e'.banned = true := by
  have f1 : (attempts c 5 [] choices).1.gcaKey = c.gcaKey := by rw [(attempts_spec c 5 [] choices).1]
  have f3 : (attempts c 5 [] choices).1.servers = c.servers := by rw [(attempts_spec c 5 [] choices).1]
  rcases syncRound_cases c choices with ⟨p', k', h1, h2⟩ | ⟨h1, h2⟩
  · rw [h2] at hg ⊢
    unfold adopt at hg ⊢
    split
    · rename_i hc
      rw [if_pos hc] at hg
      exact absurd (hg.trans f1.symm) hc.1
    · simp only
      exact c17_merge_ban_monotone _ _ k e (by rw [f3]; exact h) hb
  · rw [h2, f3]
    exact ⟨e, h, hb⟩

/-! ### "Tries to sync again later": the scheduling counter of the reporting loop
(tie: `Tie.sync_schedule`; that iterations keep happening at all is liveness, observed only) -/

/-- A round starts within `n` iterations as soon as one of them meets the start condition:
the counter is `ticks + k + 1` at iteration `k` unless a round started before. -/
theorem tickRun_true {n : Nat} {ticks : Nat} {sts : List Nat}
    (h : ∃ k st, k < n ∧ sts[k]? = some st ∧ shouldSync (ticks + k + 1) st = true) :
    true ∈ (tickRun ticks sts).take n := by
  induction n generalizing ticks sts with
  | zero => omega
  | succ n ih =>
    obtain ⟨k, st, hk, hst, hs⟩ := h
    match sts, k with
    | st0 :: rest, 0 =>
      cases hst
      simp [tickRun, tickStep, hs]
    | st0 :: rest, k + 1 =>
      simp only [tickRun, tickStep, List.take_succ_cons, List.mem_cons]
      by_cases h0 : shouldSync (ticks + 1) st0 = true
      · rw [if_pos h0]; exact .inl rfl
      · rw [if_neg h0]
        exact .inr (ih ⟨k, st, by omega, hst, by rw [← hs]; congr 1; omega⟩)

/-- A failed round is retried within 4 iterations of the loop (3 after a reset of the counter). -/
theorem c11_retry_after_failure (ticks : Nat) (sts : List Nat) (h : 4 ≤ sts.length)
    (hf : ∀ s ∈ sts, s = 0) :
    true ∈ (tickRun ticks sts).take 4 := by
  have hk : (6 - ticks % 4) % 4 < sts.length := by omega
  refine tickRun_true ⟨(6 - ticks % 4) % 4, 0, by omega, ?_, ?_⟩
  · rw [List.getElem?_eq_getElem hk, hf _ (List.getElem_mem hk)]
  · have : (ticks + (6 - ticks % 4) % 4 + 1) % 4 = 3 := by omega
    simp [shouldSync, this]

/-- Whatever the outcomes, a round is started at least every 60 iterations. -/
theorem c11_sync_at_least_every_60 (ticks : Nat) (sts : List Nat) (hk : ticks ≤ 60) (h : sts.length ≥ 60) :
    true ∈ (tickRun ticks sts).take 60 := by
  have hk' : 59 - ticks < sts.length := by omega
  refine tickRun_true ⟨59 - ticks, sts[59 - ticks], by omega, List.getElem?_eq_getElem hk', ?_⟩
  have : ticks + (59 - ticks) + 1 ≥ 60 := by omega
  simp [shouldSync, this]

example : tickRun 30 (List.replicate 8 0) = [true, false, false, true, false, false, true, false] := by decide

end Gca.Cl
