import Gca.Props.DiskBytes
/-
C05 (byte level, after the repair of F25) - what the three loaders make of a log whose last append was
cut short by a kill. Each log is append-only, one record per write; a write that is interrupted leaves a
proper prefix of one record behind the whole records. The repaired loaders drop that partial record
(and truncate the file): `loadReportsBytes` / `loadAuthsBytes` cut the data to a multiple of the record
size, `loadWeeksBytes` decodes records until the data ends before a record does. These theorems say
that what they read is exactly the list of whole records, for every list of records and every proper
prefix of one more record (of any bytes, for the fixed-size logs).
-/
namespace Gca.Srv

/-- `loadEquipmentReports` after F25: a partial trailing report is dropped, then 80-byte records. -/
def loadReportsBytes (b : Bytes) : Option (List Report) :=
  parseReports (b.take (b.length - b.length % 80))

/-- `loadEquipment` after F25: a partial trailing authorization is dropped, then 148-byte records. -/
def loadAuthsBytes (fuel : Nat) (b : Bytes) : Option (List Auth) :=
  parseAuths fuel (b.take (b.length - b.length % 148))

/-- `loadEquipmentHistory` after F25: decode records until the data ends before a record does; the
second component is the number of bytes kept (the file is truncated to it). -/
def loadWeeksBytes : Nat → Bytes → List Week × Nat
  | 0, _ => ([], 0)
  | fuel+1, b =>
    if b.isEmpty then ([], 0) else
    match Week.decode1 b with
    | none => ([], 0)
    | some (w, r) =>
      let (ws, n) := loadWeeksBytes fuel r
      (w :: ws, (b.length - r.length) + n)

theorem tornh_cut {sz n : Nat} {whole junk : Bytes} (hw : whole.length = sz * n)
    (hj : junk.length < sz) :
    (whole ++ junk).take ((whole ++ junk).length - (whole ++ junk).length % sz) = whole := by
  have hl : (whole ++ junk).length = sz * n + junk.length := by simp [hw]
  have hm : (sz * n + junk.length) % sz = junk.length := by
    rw [Nat.mul_add_mod]; exact Nat.mod_eq_of_lt hj
  rw [hl, hm, Nat.add_sub_cancel]
  exact List.take_left' hw

theorem loadReports_torn (rs : List Report) (h : ∀ r ∈ rs, r.WF) (junk : Bytes) (hj : junk.length < 80) :
    loadReportsBytes (encodeReports rs ++ junk) = some rs := by
  unfold loadReportsBytes
  rw [tornh_cut (encodeReports_length h) hj]
  exact parseReports_encode h

theorem loadAuths_torn (as : List Auth) (h : ∀ a ∈ as, a.WF) (junk : Bytes) (hj : junk.length < 148) :
    loadAuthsBytes as.length (encodeAuths as ++ junk) = some as := by
  unfold loadAuthsBytes
  rw [tornh_cut
    (length_concat rfl (fun _ _ => rfl) as fun a ha => Auth.encode_length a (h a ha)) hj]
  exact parseAuths_encode h

/-! The statistics log has records of variable length, and its loader stops at the first record that
does not decode. What makes a torn record harmless there is that each decoder consumes exactly the
bytes its record is made of (`Week.decode1_consumes`), and a proper prefix has fewer. -/

/-- A proper prefix of a record is not a record: it still announces the record's number of devices,
so the decoder would have to consume more than there is. -/
theorem week_decode1_prefix {w : Week} (h : w.WF) {k : Nat} (hk : k < (Week.encode w).length) :
    Week.decode1 ((Week.encode w).take k) = none := by
  refine Option.eq_none_iff_forall_ne_some.2 fun ⟨v, r⟩ hv => ?_
  obtain ⟨h4, hc⟩ := Week.decode1_consumes hv
  rw [List.length_take, Nat.min_eq_left (Nat.le_of_lt hk)] at h4 hc
  rw [List.take_take, Nat.min_eq_left h4, Week.encode, Week.body, List.append_assoc,
    List.take_left' (leBytes_length 4 _), unle_leBytes_of_lt (by simpa using h.1)] at hc
  have := Week.encode_length w h
  omega

theorem loadWeeks_torn (ws : List Week) (h : ∀ w ∈ ws, w.WF) {w : Week} (hw : w.WF) (k : Nat)
    (hk : k < (Week.encode w).length) (fuel : Nat) (hf : ws.length < fuel) :
    loadWeeksBytes fuel (encodeStream ws ++ (Week.encode w).take k) = (ws, (encodeStream ws).length) := by
  induction ws generalizing fuel with
  | nil =>
    cases fuel with
    | zero => simp at hf
    | succ fuel =>
      simp only [encodeStream, List.nil_append, loadWeeksBytes, week_decode1_prefix hw hk]
      split <;> rfl
  | cons v ws ih =>
    cases fuel with
    | zero => simp at hf
    | succ fuel =>
      have hv := h v (by simp)
      have ih' := ih (fun x hx => h x (by simp [hx])) fuel (by simpa using hf)
      have hne := isEmpty_append_of_pos (Week.encode_length_pos v) (encodeStream ws ++ (Week.encode w).take k)
      simp only [encodeStream, List.append_assoc, loadWeeksBytes, hne, Week.decode1_encode v _ hv, ih']
      simp only [List.length_append, Bool.false_eq_true, if_false]
      congr 1
      omega

/-- Without a partial record nothing is dropped. -/
theorem loadWeeks_whole (ws : List Week) (h : ∀ w ∈ ws, w.WF) (fuel : Nat) (hf : ws.length < fuel) :
    loadWeeksBytes fuel (encodeStream ws) = (ws, (encodeStream ws).length) := by
  have hw : (⟨[], 0, zeros 64⟩ : Week).WF := by
    refine ⟨by simp, by simp, by simp, by simp⟩
  have := loadWeeks_torn ws h hw 0 (Week.encode_length_pos _) fuel hf
  simpa using this

end Gca.Srv
