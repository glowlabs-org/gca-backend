import Gca.RateLimiter
import Gca.Basic
/-
C19 - Rate limiter never admits more than the limit per window and never starves.

Any schedule of concurrent callers is a sequence of `Allow` calls with
non-decreasing clock values (one critical section, clock read inside it: tied
to the source by the lock skeleton of `Allow` and the generated comparisons).
-/
namespace Gca.RL

/-- Number of times in `adm` that lie in the half-open window `(a, b]`. -/
def countIn (adm : List Int) (a b : Int) : Nat := (adm.filter (fun t => a < t ∧ t ≤ b)).length

/-- Number of times in `adm` that lie in the half-open window `[a, b)`. -/
def countIn' (adm : List Int) (a b : Int) : Nat := (adm.filter (fun t => a ≤ t ∧ t < b)).length

theorem c19h_admitted_cons (s : State) (t : Int) (ts : List Int) :
    admitted s (t :: ts) = (if (allow s t).2 then [t] else []) ++ admitted (allow s t).1 ts := by
  simp only [admitted, run]
  cases h : (allow s t).2 <;> simp

theorem c19h_allow_snd (s : State) (t : Int) :
    (allow s t).2 = decide (((s.reqs.dropWhile (fun x => decide ¬ (x > t - s.rate))).length : Int)
      < s.limit) := by
  unfold allow
  simp only
  split <;> rename_i h
  · exact (decide_eq_true h).symm
  · exact (decide_eq_false h).symm

theorem c19h_admitted_nil (s : State) : admitted s [] = [] := rfl

/-- The limiter `s` against the list `adm` of ALL calls admitted so far, oldest first, which the limiter itself
does not keep; `u` is the clock so far (the time of the latest call, or any later time: `Inv.mono`).
`d`: what the limiter still remembers is `adm` without a front part `d`, and everything in `d` is at least a
window older than `u`, so a call at `u` or later would drop it anyway (`Inv.kept`: `Allow` keeps of its memory
what it would keep of `adm`). `sorted`, `le`: admissions are in clock order and none is later than `u`.
`w1`, `w2`: the two window bounds of C19, one per shape of window, for every position `a` of the window. -/
structure Inv (limit rate : Int) (s : State) (adm : List Int) (u : Int) : Prop where
  hl : s.limit = limit
  hr : s.rate = rate
  d : ∃ d, adm = d ++ s.reqs ∧ ∀ x ∈ d, x ≤ u - rate
  sorted : adm.Pairwise (· ≤ ·)
  le : ∀ x ∈ adm, x ≤ u
  w1 : ∀ a, (countIn adm a (a + rate) : Int) ≤ max limit 0
  w2 : ∀ a, (countIn' adm a (a + rate) : Int) ≤ max limit 0

theorem Inv.mono {limit rate s adm u u'} (h : Inv limit rate s adm u) (huu : u ≤ u') :
    Inv limit rate s adm u' := by
  obtain ⟨d, hd, hdle⟩ := h.d
  exact { h with
    d := ⟨d, hd, fun x hx => by have := hdle x hx; omega⟩
    le := fun x hx => by have := h.le x hx; omega }

/-- What `Allow` at `t` keeps of its memory is what is left of all admissions when the leading expired
ones are dropped. -/
theorem Inv.kept {limit rate s adm t} (h : Inv limit rate s adm t) :
    s.reqs.dropWhile (fun x => decide ¬ (x > t - s.rate)) =
      adm.dropWhile (fun x => decide ¬ (x > t - rate)) := by
  obtain ⟨d, hd, hdle⟩ := h.d
  rw [h.hr, hd, List.dropWhile_append_of_pos fun x hx => by have := hdle x hx; simp; omega]

theorem Inv.kept_eq {limit rate s adm t} (h : Inv limit rate s adm t) :
    s.reqs.dropWhile (fun x => decide ¬ (x > t - s.rate)) =
      adm.filter (fun x => decide (x > t - rate)) :=
  -- `adm` is sorted, so dropping its leading expired entries is filtering them out
  h.kept.trans (dropWhile_eq_filter (fun x => by simp)
    (h.sorted.imp fun hab ha => decide_eq_true (Int.lt_of_lt_of_le (of_decide_eq_true ha) hab)))

/-- Admitting `t` keeps every count bounded that, whenever it counts `t`, counts only admissions of the
window that `Allow` has just looked at (both shapes of window do). -/
theorem c19h_count_step {adm : List Int} {t rate limit : Int} {q : Int → Bool}
    (hq : q t = true → ∀ x ∈ adm, q x = true → x > t - rate)
    (hlt : ((adm.filter (fun x => decide (x > t - rate))).length : Int) < limit)
    (h : ((adm.filter q).length : Int) ≤ max limit 0) :
    (((adm ++ [t]).filter q).length : Int) ≤ max limit 0 := by
  cases hqt : q t
  · simpa [hqt] using h
  · have : (adm.filter q).length ≤ (adm.filter (fun x => decide (x > t - rate))).length := by
      rw [← List.countP_eq_length_filter, ← List.countP_eq_length_filter]
      exact List.countP_mono_left fun x hx hqx => by simpa using hq hqt x hx hqx
    simp [hqt]; omega

theorem Inv.step {limit rate s adm t} (h : Inv limit rate s adm t) :
    Inv limit rate (allow s t).1 (adm ++ (if (allow s t).2 then [t] else [])) t := by
  have hk := h.kept_eq
  have hd : ∃ d, adm = d ++ s.reqs.dropWhile (fun x => decide ¬ (x > t - s.rate)) ∧ ∀ x ∈ d, x ≤ t - rate :=
    ⟨_, by rw [h.kept, List.takeWhile_append_dropWhile], fun x hx => by
      simpa using List.all_eq_true.1 List.all_takeWhile x hx⟩
  obtain ⟨d, hadm, htw⟩ := hd
  unfold allow
  simp only
  split
  · rename_i hlt
    simp only [if_true]
    rw [hk, h.hl] at hlt
    refine ⟨h.hl, h.hr, ⟨_, by rw [← List.append_assoc, ← hadm], htw⟩, ?_, ?_, ?_, ?_⟩
    · exact List.pairwise_append.2 ⟨h.sorted, by simp, fun x hx y hy => by simp at hy; subst hy; exact h.le x hx⟩
    · exact List.forall_mem_append.2 ⟨h.le, by simp⟩
    -- `w1`, `w2` survive the admission of `t`: a window of length `rate` that holds `t` begins at `t - rate` or later,
    -- so what it counts of `adm` is later than `t - rate`, and `Allow` has just found fewer than `limit` such
    -- admissions (`hlt`)
    · exact fun a => c19h_count_step
        (fun ht x _ hx => by simp at ht hx; omega) hlt (h.w1 a)
    · exact fun a => c19h_count_step
        (fun ht x _ hx => by simp at ht hx; omega) hlt (h.w2 a)
  · simp only [Bool.false_eq_true, if_false, List.append_nil]
    exact ⟨h.hl, h.hr, ⟨_, hadm, htw⟩, h.sorted, h.le, h.w1, h.w2⟩

theorem Inv.run {limit rate} : ∀ (ts : List Int) (s : State) (adm : List Int) (u0 : Int),
    Inv limit rate s adm u0 → (u0 :: ts).Pairwise (· ≤ ·) →
    ∀ u, (∀ x ∈ u0 :: ts, x ≤ u) →
    Inv limit rate (run s ts).1 (adm ++ admitted s ts) u
  | [], s, adm, u0, h, _, u, hu => by
    simpa [RL.run, c19h_admitted_nil] using h.mono (hu u0 (by simp))
  | t :: ts, s, adm, u0, h, hp, u, hu => by
    rw [List.pairwise_cons] at hp
    have h1 := (h.mono (hp.1 t (by simp))).step
    have h2 := Inv.run ts _ _ t h1 hp.2 u (fun x hx => hu x (List.mem_cons_of_mem _ hx))
    rw [c19h_admitted_cons]
    simpa [RL.run] using h2

theorem Inv.init (limit rate u : Int) : Inv limit rate (init limit rate) [] u := by
  refine ⟨rfl, rfl, ⟨[], rfl, by simp⟩, by simp, by simp, ?_, ?_⟩
  · intro a; simp [countIn]; omega
  · intro a; simp [countIn']; omega

theorem Inv.init_run (limit rate : Int) {ts : List Int} (hs : ts.Pairwise (· ≤ ·)) {u : Int}
    (hu : ∀ x ∈ ts, x ≤ u) :
    Inv limit rate (RL.run (RL.init limit rate) ts).1 (admitted (RL.init limit rate) ts) u := by
  cases ts with
  | nil => exact Inv.init limit rate u
  | cons p ps =>
    have := Inv.run (p :: ps) _ _ p (Inv.init limit rate p)
      (List.pairwise_cons.2 ⟨List.forall_mem_cons.2 ⟨Int.le_refl p, (List.pairwise_cons.1 hs).1⟩, hs⟩)
      u (List.forall_mem_cons.2 ⟨hu p List.mem_cons_self, hu⟩)
    simpa using this

theorem c19h_exists_ub : ∀ ts : List Int, ∃ u, ∀ x ∈ ts, x ≤ u
  | [] => ⟨0, by simp⟩
  | t :: ts => by
    obtain ⟨u, hu⟩ := c19h_exists_ub ts
    exact ⟨max u t, List.forall_mem_cons.2 ⟨by omega, fun x hx => by have := hu x hx; omega⟩⟩

/-- Exact characterisation (refinement to the sliding-window specification):
a call at time `t` after the calls `pre` is admitted iff fewer than `limit`
calls were admitted in the preceding window `(t - rate, t]`. -/
theorem c19_exact (limit rate : Int) (pre : List Int) (t : Int)
    (hs : (pre ++ [t]).Pairwise (· ≤ ·)) :
    (allow (run (init limit rate) pre).1 t).2 =
      decide ((countIn (admitted (init limit rate) pre) (t - rate) t : Int) < limit) := by
  rw [List.pairwise_append] at hs
  have h := Inv.init_run limit rate hs.1 (fun x hx => hs.2.2 x hx t (by simp))
  have hk := h.kept_eq
  have hc : countIn (admitted (init limit rate) pre) (t - rate) t =
      ((admitted (init limit rate) pre).filter (fun x => decide (x > t - rate))).length := by
    unfold countIn
    congr 1
    apply List.filter_congr
    intro x hx
    have := h.le x hx
    simp; omega
  rw [c19h_allow_snd, hk, h.hl, hc]

/-- Never starves: fewer than `limit` admissions in the preceding window ⇒ admitted. -/
theorem c19_no_starve (limit rate : Int) (pre : List Int) (t : Int)
    (hs : (pre ++ [t]).Pairwise (· ≤ ·))
    (h : (countIn (admitted (init limit rate) pre) (t - rate) t : Int) < limit) :
    (allow (run (init limit rate) pre).1 t).2 = true := by
  rw [c19_exact limit rate pre t hs]; simpa using h

/-- No window `(a, a+rate]` holds more than `limit` admitted calls. -/
theorem c19_window_bound (limit rate : Int) (ts : List Int) (hs : ts.Pairwise (· ≤ ·))
    (hr : 0 ≤ rate) (a : Int) :
    (countIn (admitted (init limit rate) ts) a (a + rate) : Int) ≤ max limit 0 := by
  -- `hr` is not needed: for rate < 0 the window is empty
  obtain ⟨u, hu⟩ := c19h_exists_ub ts
  exact (Inv.init_run limit rate hs hu).w1 a

/-- No window `[a, a+rate)` holds more than `limit` admitted calls. -/
theorem c19_window_bound' (limit rate : Int) (ts : List Int) (hs : ts.Pairwise (· ≤ ·))
    (hr : 0 ≤ rate) (a : Int) :
    (countIn' (admitted (init limit rate) ts) a (a + rate) : Int) ≤ max limit 0 := by
  obtain ⟨u, hu⟩ := c19h_exists_ub ts
  exact (Inv.init_run limit rate hs hu).w2 a

/-- Non-vacuity: a concrete schedule where the bound is attained and a later call is admitted again. -/
example : (run (init 2 10) [0, 1, 2, 10, 11]).2 = [true, true, false, true, true] := by decide

end Gca.RL
