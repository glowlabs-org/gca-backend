import Gca.Server.Ops
/-
C02 - One report per device-timeslot; equivocation or over-capacity bans the slot.

`integrateDev` touches one slot of one device. The per-slot behaviour is the
machine `slotStep`; folding any sequence of valid reports for a slot refines the
specification `slotValue`, which depends only on the SET of reports received.
-/
namespace Gca.Srv

/-- Specification: the published value as a function of the reports received for the slot. -/
def slotValue (cap : Nat) : List Report → Nat
  | [] => 0
  | r :: rs => if (r :: rs).all (fun x => decide (x = r)) && !overCapacity r.p cap then r.p else 1

/-- Once a slot is banned no later report changes it. -/
theorem c02_ban_absorbing (cap : Nat) (slot : Report) (rs : List Report) (h : slot.p = 1) :
    rs.foldl (slotStep cap) slot = slot :=
  foldl_slotStep_eq_self fun y _ => (slotStep_eq_self cap slot y).mpr (Or.inl h)

theorem c02h_foldl_stored (cap : Nat) {r : Report} (rs : List Report) (hr : ValidP r) :
    (rs.foldl (slotStep cap) r).p = if rs.all (fun x => decide (x = r)) then r.p else 1 := by
  induction rs with
  | nil => rfl
  | cons x xs ih =>
    rw [List.foldl_cons]
    by_cases hx : r = x
    · subst hx
      rw [(slotStep_eq_self cap r r).mpr (Or.inr rfl), ih]; simp
    · have hp := slotStep_other cap hr hx
      rw [c02_ban_absorbing cap _ xs hp, hp]
      simp [Ne.symm hx]

theorem c02h_slotValue_eq (cap : Nat) (r : Report) {rs : List Report} (hmem : r ∈ rs) :
    slotValue cap rs =
      if (∀ x ∈ rs, x = r) ∧ overCapacity r.p cap = false then r.p else 1 := by
  cases rs with
  | nil => cases hmem
  | cons a t =>
    by_cases ha : a = r
    · subst ha
      simp [slotValue]
    · have h3 : (a :: t).all (fun x => decide (x = a)) = false :=
        Bool.eq_false_iff.mpr fun h => ha (of_decide_eq_true (List.all_eq_true.mp h r hmem)).symm
      rw [if_neg fun h => ha (h.1 a List.mem_cons_self)]
      simp [slotValue, h3]

/-- Refinement: folding valid reports over an empty slot gives `slotValue`. -/
theorem c02_fold (cap : Nat) (rs : List Report) (hv : ∀ r ∈ rs, ValidP r) :
    (rs.foldl (slotStep cap) Report.zero).p = slotValue cap rs := by
  cases rs with
  | nil => rfl
  | cons r rs =>
    have hr : ValidP r := hv r List.mem_cons_self
    rw [List.foldl_cons, slotStep_empty cap rfl hr.1]
    cases ho : overCapacity r.p cap with
    | true => rw [c02_ban_absorbing cap _ rs rfl]; simp [slotValue, ho]
    | false => rw [if_neg Bool.false_ne_true, c02h_foldl_stored cap rs hr]; simp [slotValue, ho]

/-- The outcome depends only on the set of reports received (so it is invariant
under replays, duplicates and any arrival order). -/
theorem c02_set (cap : Nat) (rs rs' : List Report) (h : ∀ r, r ∈ rs ↔ r ∈ rs') :
    slotValue cap rs = slotValue cap rs' := by
  cases rs with
  | nil =>
    cases rs' with
    | nil => rfl
    | cons a t => exact absurd ((h a).2 List.mem_cons_self) List.not_mem_nil
  | cons a t =>
    rw [c02h_slotValue_eq cap a List.mem_cons_self, c02h_slotValue_eq cap a ((h a).1 List.mem_cons_self)]
    simp only [h]

theorem c02_perm (cap : Nat) (rs rs' : List Report) (h : rs.Perm rs')
    (hv : ∀ r ∈ rs, ValidP r) :
    (rs.foldl (slotStep cap) Report.zero).p = (rs'.foldl (slotStep cap) Report.zero).p := by
  have hv' : ∀ r ∈ rs', ValidP r := fun r hr => hv r (h.mem_iff.2 hr)
  rw [c02_fold cap rs hv, c02_fold cap rs' hv']
  exact c02_set cap rs rs' (fun r => h.mem_iff)

/-- None gives 0. -/
theorem c02_none (cap : Nat) : slotValue cap [] = 0 := rfl

/-- Exactly one distinct report within capacity gives its value, however often replayed. -/
theorem c02_single (cap : Nat) (r : Report) (n : Nat) (h : overCapacity r.p cap = false) :
    slotValue cap (List.replicate (n+1) r) = r.p := by
  rw [c02h_slotValue_eq cap r (by simp)]
  simp [h]

/-- Two distinct reports give the ban sentinel. -/
theorem c02_equivocation (cap : Nat) (rs : List Report) (r r' : Report)
    (h : r ∈ rs) (h' : r' ∈ rs) (hne : r ≠ r') : slotValue cap rs = 1 := by
  rw [c02h_slotValue_eq cap r h]
  exact if_neg fun hh => hne (hh.1 r' h').symm

/-- Any report over capacity gives the ban sentinel. -/
theorem c02_overcap (cap : Nat) (rs : List Report) (r : Report)
    (h : r ∈ rs) (ho : overCapacity r.p cap = true) : slotValue cap rs = 1 := by
  rw [c02h_slotValue_eq cap r h]
  simp [ho]

/-- Over capacity means: non-negative (below 2^63) and more than 135 % of the capacity,
for every 64-bit power and capacity. -/
theorem c02_overcap_meaning (p cap : Nat) (hp : p < 2^64) (hc : cap < 2^64) :
    overCapacity p cap = decide (100 * p > 135 * cap ∧ p < 2^63) := by
  rw [Bool.eq_iff_iff]
  simp only [overCapacity, Bool.and_eq_true, decide_eq_true_eq]
  unfold capLimit
  omega

/-- Reports for another device never touch this device: `integrate` only replaces
the entry of `r.id`. -/
theorem c02_frame_device (cfg : Cfg) (s s' : State) (r : Report) (id : Nat) (hne : id ≠ r.id)
    (b : Bool) (h : integrate cfg s r = some (s', b)) : s'.devices.get id = s.devices.get id := by
  obtain ⟨_, _, _, _, rfl⟩ := integrate_some h
  cases b
  · rfl
  · exact FMap.get_set_ne (Ne.symm hne)

/-- Non-vacuity: replay keeps the value; a second distinct report bans; an
over-capacity report bans (capacity 1000, limit 1350). -/
example : let a : Report := ⟨1, 5, 500, zeros 64⟩; let b : Report := ⟨1, 5, 501, zeros 64⟩
    ([a, a, a].foldl (slotStep 1000) Report.zero).p = 500 ∧
    ([a, b, a].foldl (slotStep 1000) Report.zero).p = 1 ∧
    ([⟨1, 5, 1351, zeros 64⟩].foldl (slotStep 1000) Report.zero).p = 1 ∧
    ([⟨1, 5, 1350, zeros 64⟩].foldl (slotStep 1000) Report.zero).p = 1350 ∧
    ([⟨1, 5, 2^63, zeros 64⟩].foldl (slotStep 1000) Report.zero).p = 2^63 := by decide

end Gca.Srv
