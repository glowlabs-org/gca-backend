import Gca.Props.C05
-- no declaration below uses it: the order facts the header cites (`Tie.public_files`, `Tie.archive_order`) are there, and
-- with this import the module, and so check C14, fails as soon as an obligation of that file no longer holds
import Gca.Tie.Tables
/-
C14 - Archive download is a consistent, public-only snapshot.

The handler reads the files one after another without locks, in the order
statistics, reports, authorizations, GCA key (`Tie.public_files`), while
operations keep appending. Model: the server passes through states
`sa →* sb →* sc →* se` (any operations in between) and the archive takes the
statistics file of `sa`, the report file of `sb`, the authorization file of
`sc` and the GCA key file of `se`. Atomic appends (the property's own
assumption) make each of them a record-aligned prefix of the final file.
The private key is never read: the archive's key entry is the public half
returned by `loadGCAServerKeys` (tie: `archive_order`, and the harness scans
every archive for the private key bytes). Rate: the limiter is consulted before
any file is read (`archive_order`), so C19 bounds the archives per window.
-/
namespace Gca.Srv

/-- `t` is reachable from `s` by some operations. -/
def Reach (cfg : Cfg) (V : Verify) (sgn : Bytes → Bytes) (s t : State) : Prop :=
  ∃ ops, (∀ op ∈ ops, OpWF op) ∧ (run cfg V sgn s ops).1 = t

/-- One operation on the files: every log is extended by appending, a registered GCA key file is
left alone, and every report in the new report file is an old one or is signed by
the device that was live under its id. -/
structure c14h_StepOk (V : Verify) (s s' : State) : Prop where
  auths   : s.disk.auths <+: s'.disk.auths
  reports : s.disk.reports <+: s'.disk.reports
  weeks   : s.disk.weeks <+: s'.disk.weeks
  key     : s.gcaAvail = true → s'.disk.gcaKey = s.disk.gcaKey
  newOk   : ∀ r ∈ s'.disk.reports, r ∈ s.disk.reports ∨
              ∃ d, s.devices.get r.id = some d ∧ V d.auth.key (Report.signingBytes r) r.sig = true

theorem c14h_ok_of_reports (V : Verify) {s s' : State} (ha : s.disk.auths <+: s'.disk.auths)
    (hr : s'.disk.reports = s.disk.reports) (hw : s.disk.weeks <+: s'.disk.weeks)
    (hk : s'.disk.gcaKey = s.disk.gcaKey) : c14h_StepOk V s s' :=
  ⟨ha, hr ▸ List.prefix_refl _, hw, fun _ => hk, fun _ h => Or.inl (hr ▸ h)⟩

theorem c14h_eff {cfg : Cfg} {V : Verify} {sgn : Bytes → Bytes} {s s' : State} {op : Op}
    (h : Sync cfg V s) (e : Eff cfg V sgn s op s') : c14h_StepOk V s s' := by
  cases e with
  | @report _ _ r _ ha hi =>
    obtain ⟨_, _, ⟨d, hd, hv⟩, _⟩ := admitted_eq_some.mp ha
    obtain ⟨_, _, _, _, rfl⟩ := integrate_some hi
    refine ⟨List.prefix_refl _, ⟨[r], rfl⟩, List.prefix_refl _, fun _ => rfl, fun x hx => ?_⟩
    rcases List.mem_append.mp hx with hx | hx
    · exact Or.inl hx
    · rw [List.mem_singleton.mp hx]; exact Or.inr ⟨d, hd, hv⟩
  | register hav =>
    exact ⟨List.prefix_refl _, List.prefix_refl _, List.prefix_refl _, fun h => (nomatch hav.symm.trans h), fun _ hr => Or.inl hr⟩
  | @auth a => exact c14h_ok_of_reports V ⟨[a], rfl⟩ rfl (List.prefix_refl _) rfl
  | @rotate _ w => exact c14h_ok_of_reports V (List.prefix_refl _) rfl ⟨[w], rfl⟩ rfl
  | restart hl =>
    obtain ⟨t, again, ht, _, _, _, hd, hag⟩ := c04h_sync_loadCore _ h
    obtain ⟨s3, ws, _, h3, _, e⟩ := load_frame hl
    cases ht.symm.trans h3
    -- the disk after a start: what `loadCore` left (some reports once more), then the weeks of the catch-up
    have e' : s'.disk = { s.disk with reports := s.disk.reports ++ again, weeks := s.disk.weeks ++ ws } := by
      rw [e, hd]
    refine ⟨?_, ?_, ?_, fun _ => ?_, fun r hr => Or.inl ?_⟩ <;> rw [e'] at *
    · exact List.prefix_refl _
    · exact ⟨again, rfl⟩
    · exact ⟨ws, rfl⟩
    · exact (List.mem_append.mp hr).elim id (hag r)
  | _ => exact c14h_ok_of_reports V (List.prefix_refl _) rfl (List.prefix_refl _) rfl

theorem c14h_avail_keeps {s s' : State} (hs : Inv s) (hs' : Inv s') (hav : s.gcaAvail = true)
    (hk : s'.disk.gcaKey = s.disk.gcaKey) : s'.gcaAvail = true := by
  have h := hs'.gca
  rw [hk] at h
  exact (hs.gca.unique h).2.trans hav

theorem c14h_dev_auth_on_disk {cfg : Cfg} {V : Verify} {s : State} (h : Sync cfg V s) {id : Nat} {d : Dev}
    (hd : s.devices.get id = some d) : d.auth ∈ s.disk.auths := by
  have ha := h.authSim.1 id
  rw [hd] at ha
  obtain ⟨d', hd', (e : d'.auth = d.auth)⟩ := Option.map_eq_some_iff.mp ha
  obtain ⟨a, ha, rfl⟩ := (foldl_replayAuth_dev hd').resolve_left nofun
  exact e ▸ ha

/-! ### The invariant `Sync` does not carry: every report on disk has its authorization on disk

`Sync` says nothing about the records of a BANNED id in the report file (`Sync.repOk`
only speaks about ids that are not banned), so `c14_report_has_auth` does not follow
from `Sync` alone. The missing fact is itself an invariant of the server: -/

/-- Every report on disk verifies under the key of an authorization on disk with the same id. -/
def RepAuth (V : Verify) (s : State) : Prop :=
  ∀ r ∈ s.disk.reports, ∃ a ∈ s.disk.auths, a.id = r.id ∧ V a.key (Report.signingBytes r) r.sig = true

theorem c14_repauth_boot (cfg : Cfg) (V : Verify) (sgn : Bytes → Bytes) (tempKey fresh : Key) (now : Nat) (s : State)
    (hf : fresh.length = 32) (h : boot cfg V sgn tempKey fresh now = some s) : RepAuth V s := by
  obtain ⟨hc, _⟩ := c04h_sync_boot0 cfg V tempKey fresh hf
  obtain ⟨s3, _, _, h3, _, rfl⟩ := load_frame h
  cases hc.symm.trans h3
  nofun

theorem c14_repauth_eff {cfg : Cfg} {V : Verify} {sgn : Bytes → Bytes} {s s' : State} {op : Op}
    (h : Sync cfg V s) (e : Eff cfg V sgn s op s') (hra : RepAuth V s) : RepAuth V s' := by
  have hst := c14h_eff h e
  intro r hr
  rcases hst.newOk r hr with hold | ⟨d, hd, hv⟩
  · obtain ⟨a, ha, h1, h2⟩ := hra r hold
    exact ⟨a, hst.auths.subset ha, h1, h2⟩
  · exact ⟨d.auth, hst.auths.subset (c14h_dev_auth_on_disk h hd), (h.inv.devOk _ _ hd).1, hv⟩

theorem c14h_reach {cfg : Cfg} {V : Verify} {sgn : Bytes → Bytes} {s t : State} (h : Sync cfg V s)
    (hr : Reach cfg V sgn s t) :
    Sync cfg V t ∧ s.disk.auths <+: t.disk.auths ∧ s.disk.reports <+: t.disk.reports ∧
      s.disk.weeks <+: t.disk.weeks ∧ (s.gcaAvail = true → t.disk.gcaKey = s.disk.gcaKey) ∧
      (RepAuth V s → RepAuth V t) := by
  obtain ⟨ops, hops, rfl⟩ := hr
  refine run_rule (P := fun t => Sync cfg V t ∧ s.disk.auths <+: t.disk.auths ∧ s.disk.reports <+: t.disk.reports ∧
      s.disk.weeks <+: t.disk.weeks ∧ (s.gcaAvail = true → t.disk.gcaKey = s.disk.gcaKey) ∧ (RepAuth V s → RepAuth V t))
    (fun x x' op ho ⟨g0, g1, g2, g3, g4, g5⟩ e => ?_)
    ⟨h, List.prefix_refl _, List.prefix_refl _, List.prefix_refl _, fun _ => rfl, id⟩
  have hst := c14h_eff g0 e
  exact ⟨c04h_sync_eff g0 (hops op ho) e, g1.trans hst.auths, g2.trans hst.reports, g3.trans hst.weeks,
    fun hav => (hst.key (c14h_avail_keeps h.inv g0.inv hav (g4 hav))).trans (g4 hav),
    fun hra => c14_repauth_eff g0 e (g5 hra)⟩

/- Note: from `Sync` alone the closure statements below are NOT provable (`Sync.repOk` is silent
about reports of banned ids; kernel-checked counterexample on an unreachable state in
Gca/Lemmas/C14Cex.lean). They are therefore stated for every state reachable from a first
start - which is every state a real server can be in - via the extra invariant `RepAuth`. -/

/-- `c14_report_has_auth` from `Sync` together with the invariant `RepAuth`
(which holds at first start, `c14_repauth_boot`, and is kept by every operation,
`c14_repauth_eff`). -/
theorem c14_report_has_auth' (cfg : Cfg) (V : Verify) (s : State) (hs : Sync cfg V s) (hra : RepAuth V s)
    (hz : ∀ m sg, V (zeros 32) m sg = false) (r : Report) (hr : r ∈ s.disk.reports) :
    ∃ a ∈ s.disk.auths, a.id = r.id ∧ V a.key (Report.signingBytes r) r.sig = true :=
  hra r hr

/-- For ids that are not banned `Sync` alone suffices: the report verifies under the key of
the live device, whose authorization is a record of the authorization file. -/
theorem c14_report_has_auth_live (cfg : Cfg) (V : Verify) (s : State) (hs : Sync cfg V s)
    (r : Report) (hr : r ∈ s.disk.reports) (hb : r.id ∉ s.bans) :
    ∃ a ∈ s.disk.auths, a.id = r.id ∧ V a.key (Report.signingBytes r) r.sig = true := by
  obtain ⟨d, hd, hv, _⟩ := hs.repOk r hr hb
  exact ⟨d.auth, c14h_dev_auth_on_disk hs hd, (hs.inv.devOk _ _ hd).1, hv⟩

/-- In every state reachable from a first start each report on disk belongs to an id
whose authorization is on disk and verifies under it. -/
theorem c14_report_has_auth (cfg : Cfg) (V : Verify) (sgn : Bytes → Bytes) (tempKey fresh : Key) (now : Nat)
    (s0 : State) (ops : List Op) (hf : fresh.length = 32)
    (hb : boot cfg V sgn tempKey fresh now = some s0) (hops : ∀ op ∈ ops, OpWF op)
    (r : Report) (hr : r ∈ (run cfg V sgn s0 ops).1.disk.reports) :
    ∃ a ∈ (run cfg V sgn s0 ops).1.disk.auths, a.id = r.id ∧ V a.key (Report.signingBytes r) r.sig = true :=
  (c14h_reach (sync_boot hf hb) ⟨ops, hops, rfl⟩).2.2.2.2.2
    (c14_repauth_boot cfg V sgn tempKey fresh now s0 hf hb) r hr

/-- `c14_closed` from `Sync` together with the invariant `RepAuth`, which only the first clause needs:
that authorizations verify under the archived GCA key and that statistics are a prefix follows from `Sync` alone. -/
theorem c14_closed' (cfg : Cfg) (V : Verify) (sgn : Bytes → Bytes) (sa sb sc se : State)
    (ha : Sync cfg V sa) (hra : RepAuth V sa)
    (hab : Reach cfg V sgn sa sb) (hbc : Reach cfg V sgn sb sc) (hce : Reach cfg V sgn sc se) :
    (∀ r ∈ sb.disk.reports, ∃ a ∈ sc.disk.auths, a.id = r.id ∧ V a.key (Report.signingBytes r) r.sig = true) ∧
    (∀ a ∈ sc.disk.auths, ∃ k, se.disk.gcaKey = some k ∧ V k (Auth.signingBytes a) a.sig = true) ∧
    (∃ x, se.disk.weeks = sa.disk.weeks ++ x) := by
  obtain ⟨hb, _, _, w1, _, hrb⟩ := c14h_reach ha hab
  obtain ⟨hc, a2, _, w2, _⟩ := c14h_reach hb hbc
  obtain ⟨_, _, _, w3, k3, _⟩ := c14h_reach hc hce
  refine ⟨fun r hr => ?_, fun a hmem => ?_, ?_⟩
  · obtain ⟨a, hmem, h1, h2⟩ := hrb hra r hr
    exact ⟨a, a2.subset hmem, h1, h2⟩
  · cases hav : sc.gcaAvail with
    | false => rw [hc.noAuthUnreg hav] at hmem; cases hmem
    | true => exact ⟨sc.gcaKey, (k3 hav).trans (hc.inv.gcaAv hav).1, hc.authSig a hmem⟩
  · obtain ⟨x, e⟩ := w1.trans (w2.trans w3)
    exact ⟨x, e.symm⟩

/-- Dependency closure of every archive taken from a server that was started on a
freshly installed directory. -/
theorem c14_closed (cfg : Cfg) (V : Verify) (sgn : Bytes → Bytes) (tempKey fresh : Key) (now : Nat)
    (s0 sa sb sc se : State) (hf : fresh.length = 32) (hb : boot cfg V sgn tempKey fresh now = some s0)
    (h0a : Reach cfg V sgn s0 sa)
    (hab : Reach cfg V sgn sa sb) (hbc : Reach cfg V sgn sb sc) (hce : Reach cfg V sgn sc se)
    (hz : ∀ m sg, V (zeros 32) m sg = false) :
    (∀ r ∈ sb.disk.reports, ∃ a ∈ sc.disk.auths, a.id = r.id ∧ V a.key (Report.signingBytes r) r.sig = true) ∧
    (∀ a ∈ sc.disk.auths, ∃ k, se.disk.gcaKey = some k ∧ V k (Auth.signingBytes a) a.sig = true) ∧
    (∃ x, se.disk.weeks = sa.disk.weeks ++ x) := by
  obtain ⟨ha, _, _, _, _, hra⟩ := c14h_reach (sync_boot hf hb) h0a
  exact c14_closed' cfg V sgn sa sb sc se ha (hra (c14_repauth_boot cfg V sgn tempKey fresh now s0 hf hb)) hab hbc hce

/-- With the files in the opposite order the closure fails: a report can be in
the archive without its authorization (why the order of `PublicFiles` matters). -/
theorem c14_wrong_order_witness :
    let V : Verify := fun _ _ _ => true
    let a1 : Auth := ⟨1, zeros 32, 0, 0, 1000, 0, 0, 0, 0, zeros 64⟩
    let r : Report := ⟨1, 5, 500, zeros 64⟩
    ∃ s0, boot {} V (fun _ => []) (zeros 32) (zeros 32) 0 = some s0 ∧
      let s1 := (run {} V (fun _ => []) s0 [.register (zeros 32) (zeros 64)]).1
      let s2 := (run {} V (fun _ => []) s1 [.authorize a1, .dgram 10 (Report.encode r)]).1
      -- authorizations read first (from s1), reports later (from s2)
      r ∈ s2.disk.reports ∧ ∀ a ∈ s1.disk.auths, a.id ≠ r.id := by
  refine ⟨{ tempKey := zeros 32, srvPub := zeros 32, disk := { srvKeys := some (zeros 32) } }, ?_, ?_⟩
  · decide +kernel
  · decide +kernel

end Gca.Srv
