import Gca.Server.Inv
import Gca.Client.Lemmas
/-
C08 - Lost datagrams are eventually recovered; retransmissions are identical.

Composition of the two models: the reply the server builds from its state
(`Srv.sync`: offset and one flag per slot), the client's resend rule
(`Cl.resend`) on its history, and the server's datagram handler. Loss,
duplication and reordering of datagrams before the final round do not matter:
the theorem starts from ANY server state and ANY client history; the final
round's retransmissions may arrive in any order, any number of times,
interleaved with any other datagrams.
-/
namespace Gca.C08
open Gca.Srv Gca.Cl

/-- Deliver datagrams to the server one after another (clock `now`). -/
def deliver (cfg : Cfg) (V : Srv.Verify) (s : State) (now : Nat) (ds : List Bytes) : State :=
  ds.foldl (fun s d => (dgram cfg V s now d).1) s

/-- The datagram the client emits for a record: the report signed with its key (`sign` is deterministic). -/
def datagram (sign : Bytes → Bytes) (id : Nat) (r : Record) : Bytes :=
  Report.encode ⟨id, r.ts, r.energy, sign (Report.signingBytes ⟨id, r.ts, r.energy, []⟩)⟩

/-- Slot `i` of device `id` holds a record (possibly the ban sentinel). -/
def Filled (s : State) (id i : Nat) : Prop :=
  ∃ d x, s.devices.get id = some d ∧ d.reports[i]? = some x ∧ 0 < x.p

theorem c08h_foldl_pos {cap : Nat} {x : Report} {rs : List Report} (hv : ∀ r ∈ rs, ValidP r)
    (h : 0 < x.p ∨ rs ≠ []) : 0 < (rs.foldl (slotStep cap) x).p := by
  induction rs generalizing x with
  | nil => exact h.resolve_right (fun h => h rfl)
  | cons r t ih =>
    refine ih (fun y hy => hv y (List.mem_cons_of_mem _ hy)) (.inl ?_)
    have hr := hv r List.mem_cons_self
    rcases slotStep_after cap x r with e | e <;> rw [e]
    · exact Nat.one_pos
    · exact Nat.pos_of_ne_zero hr.1

theorem c08h_deliver_filled (cfg : Cfg) {V : Srv.Verify} {s : State} {now : Nat} {ds : List Bytes} {id i : Nat}
    {dev : Srv.Dev} {x : Report} (hd : s.devices.get id = some dev) (hx : dev.reports[i]? = some x)
    (h : 0 < x.p ∨ ∃ d ∈ ds, ∃ r, slotReport V s now id i d = some r) :
    Filled (deliver cfg V s now ds) id i := by
  have hs := foldl_dgram_slot cfg V now ds s id i
  rw [hd, Option.map_some, hx] at hs
  obtain ⟨d', hd', hx'⟩ := Option.map_eq_some_iff.mp hs
  refine ⟨d', _, hd', hx', c08h_foldl_pos (filterMap_slotReport_valid V s now id i ds) (h.imp_right ?_)⟩
  rintro ⟨d, hd, r, hr⟩
  exact List.ne_nil_of_mem (List.mem_filterMap.mpr ⟨d, hd, hr⟩)

/-- A genuine report within the window and the acceptance range fills its slot, wherever its datagram
comes among the delivered ones and whatever else is delivered. -/
theorem c08_deliver_fills (cfg : Cfg) (V : Srv.Verify) (s : State) (now : Nat) (ds : List Bytes) (hinv : Inv s)
    (r : Report) (dev : Srv.Dev) (hd : s.devices.get r.id = some dev) (hwf : r.WF)
    (hv : V dev.auth.key (Report.signingBytes r) r.sig = true)
    (h4 : (now : Int) - 432 ≤ r.ts) (h5 : (r.ts : Int) ≤ now + 432) (hp : r.p ≠ 0 ∧ r.p ≠ 1)
    (h1 : s.off ≤ r.ts) (h2 : r.ts < s.off + window) (hmem : Report.encode r ∈ ds) :
    Filled (deliver cfg V s now ds) r.id (r.ts - s.off) := by
  have hl : (Report.encode r).length = 80 := Report.encode_length r hwf.2.2.2
  have ha : admitted V s now (Report.encode r) = some r :=
    admitted_eq_some.mpr ⟨Nat.le_of_eq hl.symm, by rw [List.take_of_length_le (Nat.le_of_eq hl)]; exact Report.decode_encode r hwf,
      ⟨dev, hd, hv⟩, h4, h5, hp⟩
  have hi : r.ts - s.off < window := Nat.sub_lt_left_of_lt_add h1 h2
  exact c08h_deliver_filled cfg hd (List.getElem?_eq_getElem ((hinv.devOk _ _ hd).2.1 ▸ hi))
    (.inr ⟨_, hmem, r, slotReport_eq_some.mpr ⟨ha, rfl, (Nat.add_sub_cancel' h1).symm, hi⟩⟩)

theorem c08h_signExt32 {v : Nat} (h2 : 2 ≤ v) (hv : v < 2^32) :
    signExt32 v ≠ 0 ∧ signExt32 v ≠ 1 ∧ signExt32 v < 2^64 := by
  unfold signExt32
  split <;> omega

/-- Recovery: after a sync round against the server's current state, once the
retransmitted datagrams have arrived (in any order, any multiplicity, among
anything else), the server holds a record for every timeslot of its window, up
to the device's latest reading and within the acceptance range, for which the
device has a reading (a stored value of at least 2). -/
theorem c08_recover (cfg : Cfg) (V : Srv.Verify) (sign : Bytes → Bytes) (s : State) (hinv : Inv s)
    (id : Nat) (dev : Srv.Dev) (hd : s.devices.get id = some dev) (hid : id < 2^32)
    (hsig : ∀ m, V dev.auth.key m (sign m) = true) (hsl : ∀ m, (sign m).length = 64)
    (hist : Hist) (latest now : Nat) (hl : latest < 2^32) (hlo : s.off ≤ latest) (hso : s.off < 2^32)
    (delivered : List Bytes)
    (hdel : ∀ r ∈ resend hist latest s.off (packBits 504 (dev.reports.map (fun r => decide (r.p > 0)))),
              datagram sign id r ∈ delivered)
    (t : Nat) (h1 : s.off ≤ t) (h2 : t ≤ latest) (h3 : t < s.off + window)
    (h4 : (now : Int) - 432 ≤ t) (h5 : (t : Int) ≤ now + 432)
    (hv : ∃ v, hist.load t = some v ∧ 2 ≤ v ∧ v < 2^32) :
    ∃ d' r', (deliver cfg V s now delivered).devices.get id = some d' ∧
      d'.reports[t - s.off]? = some r' ∧ r'.p > 0 := by
  obtain ⟨v, hload, hv2, hv32⟩ := hv
  have hlen : dev.reports.length = 4032 := (hinv.devOk _ _ hd).2.1
  have hi : t - s.off < 4032 := Nat.sub_lt_left_of_lt_add h1 h3
  obtain ⟨x, hget⟩ : ∃ x, dev.reports[t - s.off]? = some x := ⟨_, List.getElem?_eq_getElem (hlen ▸ hi)⟩
  by_cases hpos : 0 < x.p
  · exact c08h_deliver_filled cfg hd hget (.inl hpos)
  · -- the flag is clear, so the client retransmits the record
    have hbit : bitSet (packBits 504 (dev.reports.map (fun r => decide (r.p > 0)))) (t - s.off) = false := by
      rw [bitSet_packBits hi, List.getD_eq_getElem?_getD, List.getElem?_map, hget]
      exact decide_eq_false hpos
    have hmem := mem_resend hl h1 h2 hi hbit hload hv2
    obtain ⟨hs0, hs1, hs64⟩ := c08h_signExt32 hv2 hv32
    exact c08_deliver_fills cfg V s now delivered hinv
      ⟨id, t, signExt32 v, sign (Report.signingBytes ⟨id, t, signExt32 v, []⟩)⟩ dev hd
      ⟨hid, Nat.lt_of_le_of_lt h2 hl, hs64, hsl _⟩ (hsig _) h4 h5 ⟨hs0, hs1⟩ h1 h3 (hdel ⟨t, signExt32 v⟩ hmem)

/-- A retransmitted value equals the original when the original fits 32 signed bits (`signExt32_mod`);
hence the retransmitted datagram is byte for byte the one originally sent. -/
theorem c08_datagram_identical (sign : Bytes → Bytes) (id ts e : Nat)
    (h : e < 2^31 ∨ (2^64 - 2^31 ≤ e ∧ e < 2^64)) :
    datagram sign id ⟨ts, signExt32 (e % 2^32)⟩ = datagram sign id ⟨ts, e⟩ := by
  rw [signExt32_mod h]

/-- And receiving a report identical to the stored one never bans the slot: the state is unchanged. -/
theorem c08_no_self_ban (cfg : Cfg) (V : Srv.Verify) (s : State) (now : Nat) (b : Bytes) (r : Report) (dev : Srv.Dev)
    (hdec : Report.decode (b.take 80) = some r) (hd : s.devices.get r.id = some dev)
    (hin : s.off ≤ r.ts ∧ r.ts < s.off + window) (hslot : dev.reports[r.ts - s.off]? = some r) :
    dgram cfg V s now b = (s, .dropped) := by
  rw [dgram_eq]
  cases ha : admitted V s now b with
  | none => rfl
  | some r' =>
    cases hdec.symm.trans (admitted_eq_some.mp ha).2.1
    -- the slot holds this very report: `slotStep` leaves it alone, nothing is recorded
    obtain ⟨d', hi⟩ : ∃ d', integrateDev s.off dev r = some (d', false) := by
      rw [integrateDev_eq, if_pos hin, hslot, Option.map_some, (slotStep_eq_self _ _ _).mpr (Or.inr rfl)]
      exact ⟨_, by rw [decide_eq_false (not_not_intro rfl)]⟩
    simp only [integrate_eq, hd, Option.bind_some, hi]
    rfl

/-- Counterpoint (why the "fits 32 signed bits" clause is there): a value above 2^31 that is not a
negative 64-bit number is retransmitted differently. -/
example : signExt32 (3000000000 % 2^32) ≠ 3000000000 := by decide

end Gca.C08
