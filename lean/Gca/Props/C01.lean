import Gca.Server.Inv
/-
C01 - Only authentic, authorized, in-window reports change server state.
-/
namespace Gca.Srv

/-- The datagram's leading 80 bytes decode to a report that names an authorized
(hence non-banned) device, carries a signature that verifies under that
device's authorized key over the signing bytes of exactly (id, timeslot,
power), lies within 432 slots of `now` and inside the storage window, and has a
power other than the sentinels 0 and 1. -/
def Accept (V : Verify) (s : State) (now : Nat) (d : Bytes) : Prop :=
  80 ≤ d.length ∧ ∃ r dev, Report.decode (d.take 80) = some r ∧ s.devices.get r.id = some dev ∧
    V dev.auth.key (Report.signingBytes r) r.sig = true ∧
    (now : Int) - 432 ≤ r.ts ∧ (r.ts : Int) ≤ now + 432 ∧
    s.off ≤ r.ts ∧ r.ts < s.off + window ∧ r.p ≠ 0 ∧ r.p ≠ 1

/-- Every other datagram leaves the whole state (memory and disk, hence every
observable computed from it) exactly as it was. -/
theorem c01_unchanged (cfg : Cfg) (V : Verify) (s : State) (now : Nat) (d : Bytes)
    (h : ¬ Accept V s now d) : dgram cfg V s now d = (s, .dropped) := by
  rw [dgram_eq]
  cases ha : admitted V s now d with
  | none => rfl
  | some r =>
    -- admitted but not accepted: the report lies outside the storage window
    obtain ⟨hl, hd, ⟨dev, hg, hv⟩, h1, h2, h0⟩ := admitted_eq_some.mp ha
    simp only [integrate_outside cfg hg fun hw => h ⟨hl, r, dev, hd, hg, hv, h1, h2, hw.1, hw.2, h0⟩]
    rfl

/-- No datagram can crash the handler. -/
theorem c01_nopanic (cfg : Cfg) (V : Verify) (s : State) (now : Nat) (d : Bytes) (hinv : Inv s) :
    (dgram cfg V s now d).2 ≠ .panic := by
  rw [dgram_eq]
  cases ha : admitted V s now d with
  | none => simp
  | some r =>
    obtain ⟨_, _, ⟨dev, hg, _⟩, _⟩ := admitted_eq_some.mp ha
    obtain ⟨s', b, e⟩ := integrate_succeeds cfg hg (hinv.devOk _ _ hg).2.1
    simp only [e]
    cases b <;> simp

/-- An accepted datagram changes at most: the one slot `r.ts - off` of the one
device `r.id` (by the per-slot rule), the recent-reports list and the report
log; nothing else. -/
theorem c01_effect (cfg : Cfg) (V : Verify) (s : State) (now : Nat) (d : Bytes) (hinv : Inv s) :
    let s' := (dgram cfg V s now d).1
    s'.gcaKey = s.gcaKey ∧ s'.gcaAvail = s.gcaAvail ∧ s'.shortIds = s.shortIds ∧ s'.bans = s.bans ∧
    s'.off = s.off ∧ s'.history = s.history ∧ s'.recentA = s.recentA ∧ s'.servers = s.servers ∧
    s'.migs = s.migs ∧ s'.disk.auths = s.disk.auths ∧ s'.disk.weeks = s.disk.weeks ∧
    s'.disk.gcaKey = s.disk.gcaKey ∧
    (∀ id, (∀ r, Report.decode (d.take 80) = some r → id ≠ r.id) → s'.devices.get id = s.devices.get id) := by
  rcases dgram_cases cfg V s now d with h | ⟨r, ha, hi⟩
  · rw [h]; simp
  · obtain ⟨_, _, _, _, hs⟩ := integrate_some hi
    rw [hs]
    exact ⟨rfl, rfl, rfl, rfl, rfl, rfl, rfl, rfl, rfl, rfl, rfl, rfl,
      fun id hid => FMap.get_set_ne (Ne.symm (hid r (admitted_eq_some.mp ha).2.1))⟩

theorem c01_too_short (cfg : Cfg) (V : Verify) (s : State) (now : Nat) (d : Bytes) (h : d.length < 80) :
    dgram cfg V s now d = (s, .dropped) :=
  c01_unchanged cfg V s now d fun ⟨hl, _⟩ => Nat.not_le.mpr h hl

theorem c01_unknown_device (cfg : Cfg) (V : Verify) (s : State) (now : Nat) (d : Bytes)
    (h : ∀ r, Report.decode (d.take 80) = some r → s.devices.get r.id = none) :
    dgram cfg V s now d = (s, .dropped) := by
  apply c01_unchanged
  rintro ⟨_, r, dev, hd, hg, _⟩
  rw [h r hd] at hg; cases hg

theorem c01_banned_device (cfg : Cfg) (V : Verify) (s : State) (now : Nat) (d : Bytes) (hinv : Inv s)
    (h : ∀ r, Report.decode (d.take 80) = some r → r.id ∈ s.bans) :
    dgram cfg V s now d = (s, .dropped) := by
  apply c01_unchanged
  rintro ⟨_, r, dev, hd, hg, _⟩
  rw [hinv.banned r.id (h r hd)] at hg; cases hg

/-- A signature that does not verify under the device's own authorized key -
whatever other key produced it, or any altered bit that makes verification fail. -/
theorem c01_bad_signature (cfg : Cfg) (V : Verify) (s : State) (now : Nat) (d : Bytes)
    (h : ∀ r dev, Report.decode (d.take 80) = some r → s.devices.get r.id = some dev →
      V dev.auth.key (Report.signingBytes r) r.sig = false) :
    dgram cfg V s now d = (s, .dropped) := by
  apply c01_unchanged
  rintro ⟨_, r, dev, hd, hg, hv, _⟩
  rw [h r dev hd hg] at hv; cases hv

theorem c01_outside_acceptance (cfg : Cfg) (V : Verify) (s : State) (now : Nat) (d : Bytes)
    (h : ∀ r, Report.decode (d.take 80) = some r → (r.ts : Int) < now - 432 ∨ (r.ts : Int) > now + 432) :
    dgram cfg V s now d = (s, .dropped) := by
  apply c01_unchanged
  rintro ⟨_, r, dev, hd, _, _, h1, h2, _⟩
  exact (h r hd).elim (Int.not_lt.mpr h1) (Int.not_lt.mpr h2)

theorem c01_outside_storage (cfg : Cfg) (V : Verify) (s : State) (now : Nat) (d : Bytes)
    (h : ∀ r, Report.decode (d.take 80) = some r → r.ts < s.off ∨ s.off + window ≤ r.ts) :
    dgram cfg V s now d = (s, .dropped) := by
  apply c01_unchanged
  rintro ⟨_, r, dev, hd, _, _, _, _, h1, h2, _⟩
  exact (h r hd).elim (Nat.not_lt.mpr h1) (Nat.not_le.mpr h2)

theorem c01_sentinel (cfg : Cfg) (V : Verify) (s : State) (now : Nat) (d : Bytes)
    (h : ∀ r, Report.decode (d.take 80) = some r → r.p = 0 ∨ r.p = 1) :
    dgram cfg V s now d = (s, .dropped) := by
  apply c01_unchanged
  rintro ⟨_, r, dev, hd, _, _, _, _, _, _, h0, h1⟩
  exact (h r hd).elim h0 h1

/-- Observables are functions of the state: an unchanged state answers sync,
statistics and restart identically. -/
theorem c01_views (cfg : Cfg) (V : Verify) (sgn : Bytes → Bytes) (s : State) (now : Nat) (d : Bytes)
    (h : ¬ Accept V s now d) (id tso : Nat) :
    sync (dgram cfg V s now d).1 id = sync s id ∧
    statsQuery sgn (dgram cfg V s now d).1 tso = statsQuery sgn s tso ∧
    (dgram cfg V s now d).1.recentR = s.recentR ∧ (dgram cfg V s now d).1.disk = s.disk := by
  rw [c01_unchanged cfg V s now d h]; simp

/-- The same for the two read-only HTTP views of the device table: the recent-reports reply for any
key and the equipment listing. -/
theorem c01_views_http (cfg : Cfg) (V : Verify) (s : State) (now : Nat) (d : Bytes)
    (h : ¬ Accept V s now d) (key : Key) :
    recentQuery (dgram cfg V s now d).1 key = recentQuery s key ∧
    equipmentQuery (dgram cfg V s now d).1 = equipmentQuery s := by
  rw [c01_unchanged cfg V s now d h]; simp

/-- Non-vacuity: with a verifying oracle a well-formed in-window report IS
accepted and stored (so `Accept` is satisfiable and `c01_unchanged` is not vacuous). -/
example :
    let a : Auth := ⟨1, zeros 32, 0, 0, 1000, 0, 0, 0, 0, zeros 64⟩
    let s : State := { devices := [(1, newDev a)], shortIds := [(zeros 32, 1)], gcaAvail := true }
    let r : Report := ⟨1, 5, 500, zeros 64⟩
    (dgram {} (fun _ _ _ => true) s 10 (Report.encode r)).2 = .stored := by decide

end Gca.Srv
