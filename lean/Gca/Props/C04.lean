import Gca.Server.Mirrors
/-
C04 - Restart preserves every accepted fact.

`Sync s` says that memory is what the files say: replaying the authorization
file gives the same devices, key index and bans; every report in the report
file belongs to a live device (or a banned id), verifies, and lies below the
window end; every slot in memory is the fold of the per-slot rule over the
reports on disk for it. Every operation preserves `Sync` (live path and replay
path are two different programs, as in the code), and loading a `Sync` disk
reproduces the observable state. The authorized-server list and migration
orders are documented as not yet persisted and are not part of `ObsEq`; impact
rates of the live window are memory-only as well.
-/
namespace Gca.Srv

/-- What a restart must preserve: GCA key and flag, authorizations, key index,
bans, per-slot stored reports of every device, window offset, archived weeks. -/
structure ObsEq (s t : State) : Prop where
  gcaKey   : t.gcaKey = s.gcaKey
  gcaAvail : t.gcaAvail = s.gcaAvail
  auths    : ∀ id, (t.devices.get id).map (·.auth) = (s.devices.get id).map (·.auth)
  reports  : ∀ id, (t.devices.get id).map (·.reports) = (s.devices.get id).map (·.reports)
  short    : ∀ k, t.shortIds.get k = s.shortIds.get k
  bans     : ∀ id, id ∈ t.bans ↔ id ∈ s.bans
  off      : t.off = s.off
  history  : t.history = s.history

/-- The state with empty maps from which `loadEquipment` replays the authorization file. -/
def base (s : State) : State :=
  { gcaKey := s.gcaKey, gcaAvail := s.gcaAvail, tempKey := s.tempKey, srvPub := s.srvPub, disk := s.disk }

/-- Memory is in sync with the files. -/
structure Sync (cfg : Cfg) (V : Verify) (s : State) : Prop where
  inv      : Inv s
  keysOk   : ∃ k, s.disk.srvKeys = some k ∧ k.length = 32 ∧ s.srvPub = k
  authSim  : let r := s.disk.auths.foldl (replayAuth cfg) (base s)
             (∀ id, (r.devices.get id).map (·.auth) = (s.devices.get id).map (·.auth)) ∧
             (∀ k, r.shortIds.get k = s.shortIds.get k) ∧ (∀ id, id ∈ r.bans ↔ id ∈ s.bans)
  authSig  : ∀ a ∈ s.disk.auths, V s.gcaKey (Auth.signingBytes a) a.sig = true
  repOk    : ∀ r ∈ s.disk.reports, r.id ∉ s.bans →
               ∃ d, s.devices.get r.id = some d ∧ V d.auth.key (Report.signingBytes r) r.sig = true ∧
                 ValidP r ∧ r.ts < s.off + window
  slots    : ∀ id d, s.devices.get id = some d → ∀ i, i < window →
               d.reports[i]? = some ((s.disk.reports.filter (fun r => r.id = id ∧ r.ts = s.off + i)).foldl
                 (slotStep d.auth.cap) Report.zero)
  authWF   : ∀ id d, s.devices.get id = some d → d.auth.WF
  noAuthUnreg : s.gcaAvail = false → s.disk.auths = []


/-- `Sync.authSim` says: running the authorization file on observables gives the observables of memory. -/
theorem c04h_authSim_iff (cfg : Cfg) (s : State) :
    (let r := s.disk.auths.foldl (replayAuth cfg) (base s)
     (∀ id, (r.devices.get id).map (·.auth) = (s.devices.get id).map (·.auth)) ∧
     (∀ k, r.shortIds.get k = s.shortIds.get k) ∧ (∀ id, id ∈ r.bans ↔ id ∈ s.bans)) ↔
    s.disk.auths.foldl AObs.step AObs.empty = aobs s := by
  have hb : aobs (base s) = AObs.empty := rfl
  rw [← hb, ← aobs_foldl]
  exact (aobs_eq_iff _ _).symm

theorem Sync.mirrors {cfg : Cfg} {V : Verify} {s : State} (h : Sync cfg V s) :
    Mirrors V s.disk.auths s.disk.reports s :=
  ⟨h.inv, (c04h_authSim_iff cfg s).mp h.authSim, h.repOk, fun id d hd => ⟨h.authWF id d hd, h.slots id d hd⟩⟩

/-- `Sync` is: memory mirrors the two logs, and the key files and signatures are in order. -/
theorem Mirrors.sync {cfg : Cfg} {V : Verify} {s : State} (h : Mirrors V s.disk.auths s.disk.reports s)
    (hk : ∃ k, s.disk.srvKeys = some k ∧ k.length = 32 ∧ s.srvPub = k)
    (hsig : ∀ a ∈ s.disk.auths, V s.gcaKey (Auth.signingBytes a) a.sig = true)
    (hno : s.gcaAvail = false → s.disk.auths = []) : Sync cfg V s :=
  ⟨h.inv, hk, (c04h_authSim_iff cfg s).mpr h.auth, hsig, h.rep, fun id d hd => (h.devs id d hd).2,
    fun id d hd => (h.devs id d hd).1, hno⟩

theorem Sync.of_mirrors {cfg : Cfg} {V : Verify} {s s' : State} (h : Sync cfg V s)
    (hm : Mirrors V s'.disk.auths s'.disk.reports s') (hk : s'.disk.srvKeys = s.disk.srvKeys)
    (hp : s'.srvPub = s.srvPub) (ha : s'.disk.auths = s.disk.auths) (hg : s'.gcaKey = s.gcaKey)
    (hav : s'.gcaAvail = s.gcaAvail) : Sync cfg V s' :=
  hm.sync (by rw [hk, hp]; exact h.keysOk) (by rw [ha, hg]; exact h.authSig) (by rw [ha, hav]; exact h.noAuthUnreg)

/-- Rotation keeps memory and files in sync. -/
theorem sync_rotate (cfg : Cfg) (V : Verify) (sgn : Bytes → Bytes) (s : State) (h : Sync cfg V s) :
    Sync cfg V (rotate sgn s).1 := by
  have hinv' := (inv_rotate sgn s h.inv).1
  rw [rotate_eq sgn h.inv.off_mod] at hinv' ⊢
  exact .of_mirrors h (h.mirrors.shift hinv' rfl rfl rfl rfl) rfl rfl rfl rfl rfl

theorem sync_catchUp (cfg : Cfg) (V : Verify) (sgn : Bytes → Bytes) (now fuel : Nat) (s : State)
    (h : Sync cfg V s) : Sync cfg V (catchUp sgn now fuel s).1 :=
  (catchUp_rule (Q := fun _ => True) sgn now trivial (fun x hx => ⟨sync_rotate cfg V sgn x hx, trivial⟩) fuel s h).1

/-- The replay of the authorization file of a state in sync: the replay of the report file starts from the state
in memory with the lists that are not persisted emptied and with device maps that are observably the same and hold
blank windows, so they mirror the authorization file and no report yet. -/
theorem c04h_loadStart {cfg : Cfg} {V : Verify} {s : State} (h : Sync cfg V s) :
    ∃ dv sh bn ra, loadStart cfg s.srvPub s.disk s.tempKey s.gcaKey s.gcaAvail =
        { s with devices := dv, shortIds := sh, bans := bn, recentA := ra, recentR := [], servers := [], migs := [] } ∧
      Mirrors V s.disk.auths [] (loadStart cfg s.srvPub s.disk s.tempKey s.gcaKey s.gcaAvail) := by
  have hh := histInv_of_weeks (h.inv.histDisk ▸ h.inv.histTso)
  have e := loadStart_eq cfg s.srvPub s.disk s.tempKey s.gcaKey s.gcaAvail
  rw [hh.offHist, h.inv.histDisk, ← h.inv.offHist] at e
  have hauth := (aobs_foldl cfg s.disk.auths (base s)).symm
  refine ⟨_, _, _, _, e, e ▸ ⟨.ofParts (foldl_replayAuth_maps cfg s.disk.auths (base s) MapsInv.nil) h.inv.hist
    h.inv.gca, hauth, nofun, fun id d hd => ?_⟩⟩
  have ha := ((aobs_eq_iff _ s).mp (hauth.symm.trans h.mirrors.auth)).1 id
  obtain ⟨a, _, rfl⟩ := (foldl_replayAuth_dev hd).resolve_left nofun
  rw [show (s.disk.auths.foldl (replayAuth cfg) (base s)).devices.get id = _ from hd] at ha
  obtain ⟨d0, hd0, (e0 : d0.auth = a)⟩ := Option.map_eq_some_iff.mp ha.symm
  exact ⟨e0 ▸ h.authWF id d0 hd0, Slots.blank rfl nofun⟩

theorem c04h_sync_loadCore {cfg : Cfg} {V : Verify} {s : State} (fresh : Key) (h : Sync cfg V s) :
    ∃ t again, loadCore cfg V s.disk s.tempKey fresh = some t ∧ ObsEq s t ∧ Sync cfg V t ∧ t.tempKey = s.tempKey ∧
      t.disk = { s.disk with reports := s.disk.reports ++ again } ∧ ∀ x ∈ again, x ∈ s.disk.reports := by
  obtain ⟨k, hk1, hk2, hk3⟩ := h.keysOk
  have hkeys : loadKeys s.disk fresh = (s.srvPub, s.disk) := by
    unfold loadKeys; rw [hk1]
    cases k with
    | nil => simp at hk2
    | cons c cs => rw [hk3]
  have hm := h.mirrors
  -- the authorization file gives the maps in memory, the report file then gives the windows in memory
  obtain ⟨dv, sh, bn, ra, ex, hx⟩ := c04h_loadStart h
  rw [ex] at hx
  obtain ⟨t, again, hrep, ht, hd, hag⟩ := hx.replay cfg (hm.rep.of_obs (hx.auth.symm.trans hm.auth) (Nat.le_refl _))
  obtain ⟨dv', rr, rp, rfl⟩ := replayReports_frame hrep
  obtain ⟨ha, hs, hb⟩ := (aobs_eq_iff _ s).mp (ht.auth.symm.trans hm.auth)
  have hload : loadCore cfg V s.disk s.tempKey fresh = some _ := loadCore_eq_some.mpr (by
    simp only [hkeys]
    rw [show ({ s.disk with srvKeys := some s.srvPub } : Disk) = s.disk by rw [hk3, ← hk1]]
    exact ⟨by rw [hk3]; exact hk2, s.gcaKey, s.gcaAvail, h.inv.gca, h.authSig, by rw [ex]; exact hrep⟩)
  exact ⟨_, again, hload, ⟨rfl, rfl, ha, hm.reports_eq ht rfl, hs, hb, rfl, rfl⟩,
    .of_mirrors h (hd ▸ ht.absorb hag) rfl rfl rfl rfl rfl, rfl,
    congrArg (fun x => ({ s.disk with reports := x } : Disk)) hd, hag⟩

theorem c04h_sync_boot0 (cfg : Cfg) (V : Verify) (tempKey fresh : Key) (hf : fresh.length = 32) :
    loadCore cfg V {} tempKey fresh = some { tempKey := tempKey, srvPub := fresh, disk := { srvKeys := some fresh } } ∧
    Sync cfg V { tempKey := tempKey, srvPub := fresh, disk := { srvKeys := some fresh } } := by
  have hg : GcaInv (zeros 32) false none := ⟨fun _ => ⟨rfl, Or.inl rfl⟩, fun h => (nomatch h)⟩
  exact ⟨loadCore_eq_some.mpr ⟨hf, zeros 32, false, hg, nofun, rfl⟩,
    Mirrors.sync ⟨.ofParts MapsInv.nil ⟨rfl, fun k hk => absurd hk (Nat.not_lt_zero k), rfl⟩ hg, rfl, nofun, nofun⟩
      ⟨fresh, rfl, hf, rfl⟩ nofun fun _ => rfl⟩

theorem c04h_restart_eq {cfg : Cfg} {V : Verify} (sgn : Bytes → Bytes) {s : State} (fresh : Key) (now : Nat)
    (h : Sync cfg V s) :
    ∃ t, loadCore cfg V s.disk s.tempKey fresh = some t ∧ ObsEq s t ∧ Sync cfg V t ∧
      load cfg V sgn s.disk s.tempKey fresh now = some (catchUp sgn now (now / week + 2) t).1 := by
  obtain ⟨t, _, ht, hobs, hst, _⟩ := c04h_sync_loadCore fresh h
  exact ⟨t, ht, hobs, hst, load_of_core ht (inv_catchUp sgn now _ hst.inv).2⟩

/-- An authorization that takes effect, with its record appended to the authorization file: the replay will
do to the device maps what the live path did (`AuthEff.replay`), and the report file has no record that the
change could concern: the id is banned from now on, or it is new and no record on file bears it. -/
theorem c04h_sync_auth {cfg : Cfg} {V : Verify} {s s' : State} {a : Auth} (h : Sync cfg V s) (e : AuthEff cfg s a s')
    (hne : ∀ cur, s.devices.get a.id = some cur → Auth.encode cur.auth ≠ Auth.encode a) (hwf : a.WF)
    (hav : s.gcaAvail = true) (hV : V s.gcaKey (Auth.signingBytes a) a.sig = true) :
    Sync cfg V { s' with disk := { s.disk with auths := s.disk.auths ++ [a] } } := by
  have hm := h.mirrors
  have hauth : (s.disk.auths ++ [a]).foldl AObs.step AObs.empty = aobs s' := by
    rw [List.foldl_append, hm.auth, ← e.replay hne]; exact (aobs_replayAuth cfg s a).symm
  have hsig : ∀ x ∈ s.disk.auths ++ [a], V s.gcaKey (Auth.signingBytes x) x.sig = true := fun x hx =>
    (List.mem_append.mp hx).elim (h.authSig x) fun hx => List.mem_singleton.mp hx ▸ hV
  have hno : s.gcaAvail = false → s.disk.auths ++ [a] = [] := fun hh => by rw [hav] at hh; cases hh
  cases e with
  | conflict hb hc =>
    refine Mirrors.sync ⟨.ofParts (h.inv.maps.ban hc) h.inv.hist h.inv.gca, hauth, fun x hx hxb => ?_, fun id d hd => ?_⟩ h.keysOk hsig hno
    · have hid : a.id ≠ x.id := fun e => hxb (List.mem_append.mpr (Or.inr (List.mem_singleton.mpr e.symm)))
      obtain ⟨d, g1, g2⟩ := h.repOk x hx fun hh => hxb (List.mem_append.mpr (Or.inl hh))
      exact ⟨d, (FMap.get_del_ne hid).trans g1, g2⟩
    · have hid : a.id ≠ id := by
        rintro rfl
        cases FMap.get_del_same.symm.trans hd
      exact hm.devs id d ((FMap.get_del_ne hid).symm.trans hd)
  | new hb hc hk =>
    have hnorep : ∀ x ∈ s.disk.reports, x.id ≠ a.id := fun x hx e => by
      obtain ⟨d, g1, _⟩ := h.repOk x hx (e ▸ hb)
      rw [e, hc] at g1; cases g1
    refine Mirrors.sync ⟨.ofParts (h.inv.maps.add hc hk hb) h.inv.hist h.inv.gca, hauth, fun x hx hxb => ?_, fun id d hd => ?_⟩ h.keysOk hsig hno
    · obtain ⟨d, g1, g2⟩ := h.repOk x hx hxb
      exact ⟨d, (FMap.get_set_ne (hnorep x hx).symm).trans g1, g2⟩
    · by_cases hid : a.id = id
      · subst hid
        cases FMap.get_set_same.symm.trans hd
        exact ⟨hwf, Slots.blank rfl hnorep⟩
      · exact hm.devs id d ((FMap.get_set_ne hid).symm.trans hd)

theorem c04h_sync_eff {cfg : Cfg} {V : Verify} {sgn : Bytes → Bytes} {s s' : State} {op : Op}
    (h : Sync cfg V s) (hop : OpWF op) (e : Eff cfg V sgn s op s') : Sync cfg V s' := by
  have hinv := inv_eff h.inv hop e
  have hm := h.mirrors
  cases e with
  | same => exact h
  | @report _ _ r _ ha hi =>
    obtain ⟨_, _, ⟨dv, hdv, hv⟩, _, _, hp⟩ := admitted_eq_some.mp ha
    obtain ⟨d, d', hd, hi', e⟩ := integrate_some hi
    have hm' := hm.integrate (fun x hx _ => by
      rw [List.mem_singleton.mp hx]
      exact ⟨dv, hdv, hv, hp, (integrateDev_true hi').2⟩) hi
    subst e
    exact .of_mirrors h hm' rfl rfl rfl rfl rfl
  | register hav =>
    refine Mirrors.sync ⟨hinv, hm.auth, hm.rep, hm.devs⟩ h.keysOk (fun a ha => ?_) nofun
    have ha' : a ∈ s.disk.auths := ha
    rw [h.noAuthUnreg hav] at ha'; cases ha'
  | @auth a _ hav hV e hne =>
    exact c04h_sync_auth h e (fun cur hc =>
      authEq_false_encode (h.authWF a.id cur hc) hop.1 hop.2.1 hop.2.2 (hne cur hc)) hop.1 hav hV
  | rotate hw => have := sync_rotate cfg V sgn s h; rwa [rotate, hw] at this
  | restart hl =>
    obtain ⟨t, _, _, hst, hl'⟩ := c04h_restart_eq sgn _ _ h
    rw [hl'] at hl; cases hl
    exact sync_catchUp cfg V sgn _ _ t hst
  | servers | migs => exact .of_mirrors h ⟨hinv, hm.auth, hm.rep, hm.devs⟩ rfl rfl rfl rfl rfl
  | @impact id ts rate d hd =>
    have hobs : aobs { s with devices := s.devices.set id { d with impact := d.impact.set (ts - s.off) rate } } = aobs s :=
      (aobs_eq_iff _ _).mpr ⟨fun i => FMap.get_set_map_same hd (by rfl) i, fun _ => rfl, fun _ => Iff.rfl⟩
    refine .of_mirrors h ⟨hinv, hm.auth.trans hobs.symm, hm.rep.of_obs hobs (Nat.le_refl _), fun i x hx => ?_⟩
      rfl rfl rfl rfl rfl
    by_cases e : id = i
    · subst e
      cases FMap.get_set_same.symm.trans hx
      exact hm.devs id d hd
    · exact hm.devs i x ((FMap.get_set_ne e).symm.trans hx)

/-- A report already folded into a slot is absorbed when it is folded again
(the reports re-appended by a reload change nothing). -/
theorem slot_absorb (cap : Nat) (l : List Report) (r : Report) (hv : ∀ x ∈ l, ValidP x) (hr : r ∈ l) :
    slotStep cap (l.foldl (slotStep cap) Report.zero) r = l.foldl (slotStep cap) Report.zero :=
  slotStep_absorb cap _ r (hv r hr) hr

/-- First start on a freshly installed directory is in sync. -/
theorem sync_boot {cfg : Cfg} {V : Verify} {sgn : Bytes → Bytes} {tempKey fresh : Key} {now : Nat} {s : State}
    (hf : fresh.length = 32) (h : boot cfg V sgn tempKey fresh now = some s) : Sync cfg V s := by
  obtain ⟨hc, hs0⟩ := c04h_sync_boot0 cfg V tempKey fresh hf
  obtain ⟨s3, h3, hcu⟩ := load_eq_some.mp h
  rw [hc] at h3; cases h3
  have := sync_catchUp cfg V sgn now (now / week + 2) _ hs0
  rwa [hcu] at this

/-- Loading a disk that is in sync succeeds (before catch-up), reproduces the
observable state, and the result (whose report file has grown by the
re-appended reports) is again in sync. -/
theorem sync_loadCore {cfg : Cfg} {V : Verify} {s : State} (fresh : Key) (h : Sync cfg V s) :
    ∃ t, loadCore cfg V s.disk s.tempKey fresh = some t ∧ ObsEq s t ∧ Sync cfg V t := by
  obtain ⟨t, _, ht, ho, hs, _⟩ := c04h_sync_loadCore fresh h
  exact ⟨t, ht, ho, hs⟩

/-- Every operation keeps memory and files in sync. -/
theorem sync_step {cfg : Cfg} {V : Verify} (sgn : Bytes → Bytes) {s : State} {op : Op}
    (h : Sync cfg V s) (hop : OpWF op) : Sync cfg V (step cfg V sgn s op).1 :=
  c04h_sync_eff h hop (step_eff cfg V sgn s op)

theorem sync_run {cfg : Cfg} {V : Verify} (sgn : Bytes → Bytes) {s : State} {ops : List Op}
    (h : Sync cfg V s) (hops : ∀ op ∈ ops, OpWF op) : Sync cfg V (run cfg V sgn s ops).1 :=
  run_rule (fun _ _ op ho hp => c04h_sync_eff hp (hops op ho)) h

/-- C04: after any history of operations from a fresh installation, a restart
succeeds, and the state it reaches is the observable state before the restart
followed by the catch-up rotations the clock requires (zero, one or several). -/
theorem c04_restart (cfg : Cfg) (V : Verify) (sgn : Bytes → Bytes) (tempKey fresh0 fresh : Key) (now0 now : Nat)
    (s0 : State) (ops : List Op) (hf0 : fresh0.length = 32)
    (hb : boot cfg V sgn tempKey fresh0 now0 = some s0) (hops : ∀ op ∈ ops, OpWF op) :
    let s := (run cfg V sgn s0 ops).1
    ∃ t, ObsEq s t ∧ Sync cfg V t ∧
      load cfg V sgn s.disk s.tempKey fresh now = some (catchUp sgn now (now / week + 2) t).1 := by
  intro s
  have hs : Sync cfg V s := sync_run sgn (sync_boot hf0 hb) hops
  obtain ⟨t, _, hobs, hst, hl⟩ := c04h_restart_eq sgn fresh now hs
  exact ⟨t, hobs, hst, hl⟩

/-- A restart never fails and never panics, whatever preceded it. -/
theorem c04_restart_succeeds (cfg : Cfg) (V : Verify) (sgn : Bytes → Bytes) (s : State) (fresh : Key) (now : Nat)
    (h : Sync cfg V s) (hf : fresh.length = 32) :
    (step cfg V sgn s (.restart fresh now)).2 = .ok := by
  obtain ⟨t, _, _, _, hl⟩ := c04h_restart_eq sgn fresh now h
  rw [step_restart, hl]

theorem c04h_restart_now {cfg : Cfg} {V : Verify} {sgn : Bytes → Bytes} {s : State} {fresh : Key} {now : Nat}
    (h : Sync cfg V s) (hnow : (now : Int) - s.off < 4000) :
    ObsEq s (step cfg V sgn s (.restart fresh now)).1 ∧ Sync cfg V (step cfg V sgn s (.restart fresh now)).1 := by
  obtain ⟨t, _, hobs, hst, hl⟩ := c04h_restart_eq sgn fresh now h
  have e : (step cfg V sgn s (.restart fresh now)).1 = t := by
    rw [step_restart, hl]; unfold catchUp; rw [if_pos (by rw [hobs.off]; exact hnow)]
  rw [e]
  exact ⟨hobs, hst⟩

/-- Idempotence: restarting again right away (no catch-up due) reproduces the same observable state. -/
theorem c04_idempotent (cfg : Cfg) (V : Verify) (sgn : Bytes → Bytes) (s : State) (fresh : Key) (now : Nat)
    (h : Sync cfg V s) (hf : fresh.length = 32) (hnow : (now : Int) - s.off < 4000) :
    let t := (step cfg V sgn s (.restart fresh now)).1
    let u := (step cfg V sgn t (.restart fresh now)).1
    ObsEq s t ∧ ObsEq t u := by
  obtain ⟨h1, hs1⟩ := c04h_restart_now (sgn := sgn) (fresh := fresh) h hnow
  exact ⟨h1, (c04h_restart_now hs1 (by rw [h1.off]; exact hnow)).1⟩

/-- Why `OpWF` excludes NaN coordinates (JSON cannot carry them, so the Go endpoint never
sees one): with a NaN latitude the live path's struct comparison `authEq a a` is false, so
re-submitting the same authorization bans the id in memory, while the replay at start-up
compares the serialized records, finds them equal and does not ban. The restart loses the ban. -/
theorem c04_nan_witness :
    let V : Verify := fun _ _ _ => true
    let a : Auth := ⟨1, zeros 32, 0x7FF8000000000000, 0, 1000, 0, 0, 0, 0, zeros 64⟩
    let ops : List Op := [.register (zeros 32) (zeros 64), .authorize a, .authorize a]
    a.WF ∧ isNaN a.lat = true ∧ authEq a a = false ∧
    ((boot {} V (fun _ => []) (zeros 32) (zeros 32) 0).map
      (fun s0 => let res := run {} V (fun _ => []) s0 ops
                 (res.2, res.1.bans, res.1.devices.length, res.1.disk.auths.length))) =
      some ([.ok, .okNew, .banned], [1], 0, 2) ∧
    ((boot {} V (fun _ => []) (zeros 32) (zeros 32) 0).bind
      (fun s0 => let s := (run {} V (fun _ => []) s0 ops).1
                 (load {} V (fun _ => []) s.disk s.tempKey (zeros 32) 0).map
                   (fun t => (t.bans, t.devices.length)))) = some ([], 1) := by decide +kernel

/-- Non-vacuity: authorize, report, conflicting authorization (ban), restart: the
start succeeds (this history used to fail) and the ban is still there. -/
example :
    let V : Verify := fun _ _ _ => true
    let a1 : Auth := ⟨1, zeros 32, 0, 0, 1000, 0, 0, 0, 0, zeros 64⟩
    let r : Report := ⟨1, 5, 500, zeros 64⟩
    let ops : List Op := [.register (zeros 32) (zeros 64), .authorize a1, .dgram 10 (Report.encode r),
                          .authorize { a1 with debt := 7 }, .restart (zeros 32) 10]
    ((boot {} V (fun _ => []) (zeros 32) (zeros 32) 0).map
      (fun s0 => let res := run {} V (fun _ => []) s0 ops; (res.2, res.1.bans, res.1.devices.length))) =
      some ([.ok, .okNew, .stored, .banned, .ok], [1], 0) := by decide +kernel

end Gca.Srv
