import Gca.Server.Ops
import Gca.Client.Lemmas
/-
C10 - Sync replies parse to the server's data and are accepted only when authentic.

`buildReply` is what the server writes (managedHandleSyncConn), `parseReply`
what the client reads (staticServerSync); they are written separately, as in
the code. Both speak of the reply body: the 16-bit length prefix in front of it is
`readFramed`, which no theorem here mentions, so the round trips below hold for
bodies of every length. Beyond 65535 bytes the prefix wraps and no client can
parse the reply (known finding F19, identified by "reply-over-65535"): the
harness shows that with a witness, no theorem does.
-/
namespace Gca.Cl

/-- The clock is within 24 h of the signing time (and nothing wraps in 64 bits). -/
def Fresh (now time : Nat) : Prop := 86400 ≤ now ∧ now + 86400 < 2^64 ∧ time ≤ now + 86400 ∧ now - 86400 ≤ time

/-- A reply laid out as the nine fields of `buildReply` is accepted when every check of the parser holds
of those fields. -/
theorem c10_parse_core {V : Verify} {ck gk sk : Key} {now time off id : Nat}
    {A C G R S Sg : Bytes} {servers : List AuthServer}
    (hA : A.length = 32) (hC : C.length = 504) (hG : G.length = 32) (hS : S.length = 64) (hSg : Sg.length = 64)
    (ho : off < 2^32) (hi : id < 2^32) (hAk : A = ck) (hf : Fresh now time)
    (hv : V sk (A ++ (leBytes 4 off ++ (C ++ (G ++ (leBytes 4 id ++ (R ++ (S ++ leBytes 8 time))))))) Sg = true)
    (hmig : G ≠ zeros 32 → V gk (migrationPrefix ++ (A ++ (G ++ (leBytes 4 id ++ R)))) S = true)
    (hdec : AuthServer.decodeList R.length R = some servers)
    (hne : G ≠ zeros 32 → servers ≠ [])
    (hsv : ∀ a ∈ servers, V (if G ≠ zeros 32 then G else gk) (AuthServer.signingBytes a) a.sig = true) :
    parseReply V ck gk sk now
      (A ++ (leBytes 4 off ++ (C ++ (G ++ (leBytes 4 id ++ (R ++ (S ++ (leBytes 8 time ++ Sg))))))))
      = some ⟨off, C, G, id, servers⟩ := by
  refine parseReply_eq_some.2 ?_
  subst hAk
  obtain ⟨f1, f2, f3, f4⟩ := hf
  have ht : time < 256 ^ 8 := by
    omega
  have ho' : off < 256 ^ 4 := ho
  have hi' : id < 256 ^ 4 := hi
  -- Every `take`/`drop` of the parser lands on its field. With `n = 712 + |R|` the length of the reply, the fields
  -- begin at   A 0 | off 32 | C 36 | G 540 | id 572 | R 576 | S 576 + |R| = n - 136 | time n - 72 | Sg n - 64,
  -- and the signed part of a migration order is `A` and the `n - 136 - 540 = 36 + |R|` bytes from `G` on.
  -- `simp` peels the fields one at a time: `drop k (F ++ X) = drop k F ++ drop (k - |F|) X` with `drop k F = []` for
  -- `|F| ≤ k`, likewise `take`; `+arith` does the subtractions, those from `n` included, from `hA` .. `hSg`.
  simp +arith [List.take_append, List.drop_append, List.drop_eq_nil_of_le, List.take_of_length_le,
    hA, hC, hG, hS, hSg, hv, hdec, ht, ho', hi']
  exact ⟨by omega, hmig, hne, by simpa using hsv⟩

/-- Round trip, list of servers (no migration order). -/
theorem c10_roundtrip_servers (V : Verify) (sgn : Bytes → Bytes) (key gcaKey gcasKey : Key)
    (off : Nat) (bits : Bytes) (servers : List AuthServer) (time now : Nat)
    (hk : key.length = 32) (ho : off < 2^32) (hb : bits.length = 504)
    (hs : ∀ a ∈ servers, a.WF) (hf : Fresh now time)
    (hsl : ∀ b, (sgn b).length = 64)
    (hv : ∀ b, V gcasKey b (sgn b) = true)
    (hg : ∀ a ∈ servers, V gcaKey (AuthServer.signingBytes a) a.sig = true) :
    parseReply V key gcaKey gcasKey now (buildReply sgn key off bits none servers time)
      = some ⟨off, bits, zeros 32, 0, servers⟩ := by
  have z36 : zeros 36 = zeros 32 ++ leBytes 4 0 := by decide
  unfold buildReply
  simp only [z36, List.append_assoc]
  exact c10_parse_core hk hb zeros_length zeros_length (hsl _) ho (by decide) rfl hf (hv _)
    (fun h => absurd rfl h) (AuthServer.decodeList_encodeList hs (Nat.le_refl _))
    (fun h => absurd rfl h) (by intro a ha; rw [if_neg (by simp)]; exact hg a ha)

/-- Round trip, migration order (at least one new server, each signed by the new GCA;
the order itself signed by the current GCA over the signing bytes with this device's key). -/
theorem c10_roundtrip_migration (V : Verify) (sgn : Bytes → Bytes) (key gcaKey gcasKey : Key)
    (off : Nat) (bits : Bytes) (m : Migration) (time now : Nat)
    (hk : key.length = 32) (ho : off < 2^32) (hb : bits.length = 504)
    (hm : m.WF) (hme : m.equipment = key) (hne : m.newGCA ≠ zeros 32) (hsv : m.servers ≠ [])
    (hf : Fresh now time) (hsl : ∀ b, (sgn b).length = 64) (hv : ∀ b, V gcasKey b (sgn b) = true)
    (hg : V gcaKey (Migration.signingBytes m) m.sig = true)
    (hn : ∀ a ∈ m.servers, V m.newGCA (AuthServer.signingBytes a) a.sig = true) :
    parseReply V key gcaKey gcasKey now (buildReply sgn key off bits (some m) [] time)
      = some ⟨off, bits, m.newGCA, m.newId, m.servers⟩ := by
  obtain ⟨_, hm2, hm3, hm4, hm5⟩ := hm
  unfold buildReply
  simp only [Migration.tail, List.append_assoc]
  exact c10_parse_core hk hb hm2 hm5 (hsl _) ho hm3 rfl hf (hv _) (fun _ => hme ▸ hg)
    (AuthServer.decodeList_encodeList hm4 (Nat.le_refl _)) (fun _ => hsv)
    (by intro a ha; rw [if_pos hne]; exact hn a ha)

/-- The server sets flag `i` iff it holds a (possibly banned) record for timeslot `off + i`. -/
theorem c10_flags_meaning (s : Srv.State) (id : Nat) (d : Srv.Dev) (h : s.devices.get id = some d) :
    ∃ mig servers, Srv.sync s id = .syncReply d.auth.key s.off (d.reports.map (fun r => decide (r.p > 0))) mig servers := by
  rw [Srv.sync_eq, h]
  exact ⟨_, _, rfl⟩

/-- An unknown (or banned, hence removed) id gets a refusal. -/
theorem c10_unknown_refused (s : Srv.State) (id : Nat) (h : s.devices.get id = none) :
    Srv.sync s id = .syncRefused := by
  rw [Srv.sync_eq, h]

/-! Rejections: each is an error return before anything is handed to the caller. -/

theorem c10_reject_short (V : Verify) (ck gk sk : Key) (now : Nat) (resp : Bytes) (h : resp.length < 712) :
    parseReply V ck gk sk now resp = none :=
  Option.eq_none_iff_forall_ne_some.2 fun _ hp => Nat.not_lt.2 (parseReply_eq_some.1 hp).1 h

/-- Not signed by the contacted server's key (or altered in any way that makes verification fail). -/
theorem c10_reject_bad_server_signature (V : Verify) (ck gk sk : Key) (now : Nat) (resp : Bytes)
    (h : V sk (resp.take (resp.length - 64)) (resp.drop (resp.length - 64)) = false) :
    parseReply V ck gk sk now resp = none :=
  Option.eq_none_iff_forall_ne_some.2 fun _ hp =>
    Bool.false_ne_true (h.symm.trans (parseReply_eq_some.1 hp).2.2.1)

/-- More than 24 hours away from the client's clock. -/
theorem c10_reject_stale (V : Verify) (ck gk sk : Key) (now : Nat) (resp : Bytes)
    (hn : 86400 ≤ now) (hn2 : now + 86400 < 2^64)
    (h : unle ((resp.drop (resp.length - 72)).take 8) > now + 86400 ∨
         unle ((resp.drop (resp.length - 72)).take 8) < now - 86400) :
    parseReply V ck gk sk now resp = none :=
  Option.eq_none_iff_forall_ne_some.2 fun _ hp => by
    have := (parseReply_eq_some.1 hp).2.1
    omega

/-- Bound to another device's key. -/
theorem c10_reject_other_device (V : Verify) (ck gk sk : Key) (now : Nat) (resp : Bytes)
    (h : resp.take 32 ≠ ck) : parseReply V ck gk sk now resp = none :=
  Option.eq_none_iff_forall_ne_some.2 fun _ hp => h (parseReply_eq_some.1 hp).2.2.2.1

/-- Whatever is accepted carries the required GCA signatures: a migration order
verifies under the CURRENT GCA over the signing bytes that name THIS device, and
every server entry verifies under the new GCA (migration) or the current GCA. -/
theorem c10_accept_implies_signed (V : Verify) (ck gk sk : Key) (now : Nat) (resp : Bytes) (p : Parsed)
    (h : parseReply V ck gk sk now resp = some p) :
    V sk (resp.take (resp.length - 64)) (resp.drop (resp.length - 64)) = true ∧
    resp.take 32 = ck ∧
    (p.newGCA ≠ zeros 32 →
      V gk (migrationPrefix ++ (ck ++ (resp.drop 540).take (resp.length - 136 - 540)))
        ((resp.drop (resp.length - 136)).take 64) = true ∧
      p.servers ≠ [] ∧ ∀ a ∈ p.servers, V p.newGCA (AuthServer.signingBytes a) a.sig = true) ∧
    (p.newGCA = zeros 32 → ∀ a ∈ p.servers, V gk (AuthServer.signingBytes a) a.sig = true) := by
  obtain ⟨_, _, h3, h4, h5, servers, _, h7, h8, rfl⟩ := parseReply_eq_some.1 h
  refine ⟨h3, h4, fun hg => ⟨h4 ▸ h5 hg, h7 hg, fun a ha => ?_⟩, fun hg a ha => ?_⟩ <;> have := h8 a ha
  · rwa [if_pos hg] at this
  · rwa [if_neg (not_not_intro hg)] at this

/-- A failed attempt changes nothing the property names (identity, GCA, server list, history, files). -/
theorem c10_fail_keeps_state (c : Client) (k : Key) (rest : List (Key × Attempt)) (n : Nat) (failed : List Key) :
    let c' := (attempts c (n+1) failed ((k, .fail) :: rest)).1
    c'.gcaKey = c.gcaKey ∧ c'.shortId = c.shortId ∧ c'.servers = c.servers ∧ c'.hist = c.hist ∧
    c'.diskServers = c.diskServers ∧ c'.diskGCA = c.diskGCA ∧ c'.diskShortId = c.diskShortId := by
  intro c'
  rw [show c' = _ from (attempts_spec c (n+1) failed ((k, .fail) :: rest)).1]
  exact ⟨rfl, rfl, rfl, rfl, rfl, rfl, rfl⟩

/-- Non-vacuity: a minimal genuine reply (no servers) parses. -/
example :
    let V : Verify := fun _ _ _ => true
    let sgn : Bytes → Bytes := fun _ => zeros 64
    (parseReply V (zeros 32) (zeros 32) (zeros 32) 100000
      (buildReply sgn (zeros 32) 2016 (zeros 504) none [] 100000)).map (·.off) = some 2016 := by decide +kernel

end Gca.Cl
