import Gca.Server.Effects
import Gca.Client.Lemmas
/-
C17 - Server lists and GCA migration follow the GCA's signatures; bans are monotone.
-/
namespace Gca.Cl

theorem c17h_entry (V : Srv.Verify) {s : Srv.State} (a e : AuthServer) (he : e ∈ s.servers) :
    e ∈ (Srv.authServer V s a).1.servers ∨
    (a ∈ (Srv.authServer V s a).1.servers ∧ a.key = e.key ∧ a.banned = true ∧
      V s.gcaKey (AuthServer.signingBytes a) a.sig = true ∧ ∃ e0 ∈ s.servers, e0.key = a.key ∧ e0.banned = false) := by
  obtain ⟨l, o, h, -, hl⟩ := Srv.authServer_cases V s a
  rw [h]
  rcases hl with rfl | ⟨hV, -, ⟨-, rfl⟩ | ⟨hab, h0, rfl⟩⟩
  · exact .inl he
  · exact .inl (List.mem_append_left _ he)
  · have hm := List.mem_map_of_mem (f := fun e => if e.key == a.key then a else e) he
    by_cases hka : e.key = a.key
    · rw [if_pos (beq_iff_eq.2 hka)] at hm
      exact .inr ⟨hm, hka.symm, hab, hV, h0⟩
    · rw [if_neg (mt beq_iff_eq.1 hka)] at hm
      exact .inl hm

/-- A banned key stays banned through every state change but a restart (the list is not persisted): only
`authServer` touches the list, and it replaces an entry by a banning one only. -/
theorem c17h_eff_ban_kept {cfg : Srv.Cfg} {V : Srv.Verify} {sgn : Bytes → Bytes} {s s' : Srv.State} {op : Srv.Op}
    {k : Bytes} (e : Srv.Eff cfg V sgn s op s') (hre : ∀ f n, op ≠ .restart f n)
    (h : ∃ e ∈ s.servers, e.key = k ∧ e.banned = true) : ∃ e ∈ s'.servers, e.key = k ∧ e.banned = true := by
  cases e with
  | report _ hi => obtain ⟨_, _, _, rfl⟩ := Srv.integrate_frame hi; exact h
  | auth _ _ e => obtain ⟨_, _, _, _, rfl⟩ := e.frame; exact h
  | restart => exact absurd rfl (hre _ _)
  | @servers a _ hl =>
    subst hl
    obtain ⟨e, he, hk, hb⟩ := h
    rcases c17h_entry V a e he with h | ⟨ha, hka, hab, -⟩
    · exact ⟨e, h, hk, hb⟩
    · exact ⟨a, ha, hka.trans hk, hab⟩
  | _ => exact h

/-- An existing entry is never altered except to become banned (it is then
replaced by the signed banning entry), and banned never reverts; no entry is ever removed.
(Keys in the list are unique in every reachable state: `c17_authServer_keys_unique`.) -/
theorem c17_server_monotone (V : Srv.Verify) (s : Srv.State) (a : AuthServer) (e : AuthServer)
    (hu : ∀ x ∈ s.servers, ∀ y ∈ s.servers, x.key = y.key → x = y)
    (he : e ∈ s.servers) :
    e ∈ (Srv.authServer V s a).1.servers ∨
    (e.banned = false ∧ a.banned = true ∧ a.key = e.key ∧ a ∈ (Srv.authServer V s a).1.servers ∧
      V s.gcaKey (AuthServer.signingBytes a) a.sig = true) := by
  rcases c17h_entry V a e he with h | ⟨ha, hka, hab, hV, e0, he0, hk0, hb0⟩
  · exact .inl h
  · -- keys are unique, so the unbanned entry for the key is `e` itself
    cases hu e0 he0 e he (hk0.trans hka)
    exact .inr ⟨hb0, hab, hka, ha, hV⟩

/-- Key uniqueness is preserved by `authServer` (and holds for the empty list a start yields). -/
theorem c17_authServer_keys_unique (V : Srv.Verify) (s : Srv.State) (a : AuthServer)
    (hu : (s.servers.map (·.key)).Nodup) :
    ((Srv.authServer V s a).1.servers.map (·.key)).Nodup := by
  obtain ⟨l, o, h, -, hl⟩ := Srv.authServer_cases V s a
  rw [h]
  rcases hl with rfl | ⟨-, -, ⟨hn, rfl⟩ | ⟨-, -, rfl⟩⟩
  · exact hu
  · rw [List.map_append, List.nodup_append]
    refine ⟨hu, List.pairwise_singleton _ _, ?_⟩
    intro x hx y hy
    obtain ⟨e, he, rfl⟩ := List.mem_map.1 hx
    cases List.mem_singleton.1 hy
    exact hn e he
  · -- replacing an entry by one with the same key leaves the list of keys as it was
    have : (s.servers.map (fun e => if e.key == a.key then a else e)).map (·.key) = s.servers.map (·.key) := by
      rw [List.map_map]
      apply List.map_congr_left
      intro e _
      by_cases hk : e.key = a.key <;> simp [hk]
    exact this ▸ hu

/-- A server enters the list only with a valid GCA signature over its key, ban
flag, location and ports (and a location that fits the wire format). -/
theorem c17_server_added_signed (V : Srv.Verify) (s : Srv.State) (a : AuthServer)
    (h : (Srv.authServer V s a).1.servers ≠ s.servers) :
    V s.gcaKey (AuthServer.signingBytes a) a.sig = true ∧ a.loc.length ≤ 255 := by
  obtain ⟨l, o, h', -, hl⟩ := Srv.authServer_cases V s a
  rw [h'] at h
  rcases hl with rfl | ⟨hV, hlen, -⟩
  · exact absurd rfl h
  · exact ⟨hV, hlen⟩

/-- Why `c17_server_monotone` carries the key-uniqueness hypothesis (which holds in every
reachable state, `c17_authServer_keys_unique`): without it the statement fails: list `[e1 (not banned), e2 (banned)]`
with one key, a signed banning entry `a` for that key: both become `a`, so `e2` is gone
although it was banned already. -/
example :
    let V : Srv.Verify := fun _ _ _ => true
    let e1 : AuthServer := ⟨zeros 32, false, [1], 1, 1, 1, zeros 64⟩
    let e2 : AuthServer := ⟨zeros 32, true, [2], 2, 2, 2, zeros 64⟩
    let a : AuthServer := ⟨zeros 32, true, [3], 3, 3, 3, zeros 64⟩
    let s : Srv.State := { servers := [e1, e2] }
    e2 ∈ s.servers ∧
    ¬ (e2 ∈ (Srv.authServer V s a).1.servers ∨
      (e2.banned = false ∧ a.banned = true ∧ a.key = e2.key ∧ a ∈ (Srv.authServer V s a).1.servers ∧
        V s.gcaKey (AuthServer.signingBytes a) a.sig = true)) := by decide

/-- Across any sequence of operations (restart excluded: the list is documented
as not yet persisted), a banned key stays banned. -/
theorem c17_server_ban_permanent (cfg : Srv.Cfg) (V : Srv.Verify) (sgn : Bytes → Bytes) (s : Srv.State)
    (ops : List Srv.Op) (k : Bytes) (hre : ∀ op ∈ ops, ∀ f n, op ≠ .restart f n)
    (h : ∃ e ∈ s.servers, e.key = k ∧ e.banned = true) :
    ∃ e ∈ (Srv.run cfg V sgn s ops).1.servers, e.key = k ∧ e.banned = true :=
  Srv.run_rule (P := fun t => ∃ e ∈ t.servers, e.key = k ∧ e.banned = true)
    (fun _ _ op ho hp e => c17h_eff_ban_kept e (hre op ho) hp) h

/-- A migration order is stored only if it verifies under the current GCA and
every new server verifies under the new GCA. -/
theorem c17_migration_signed (V : Srv.Verify) (s : Srv.State) (m : Migration)
    (h : (Srv.migrateOrder V s m).2 = .ok) :
    V s.gcaKey (Migration.signingBytes m) m.sig = true ∧
    ∀ a ∈ m.servers, V m.newGCA (AuthServer.signingBytes a) a.sig = true ∧ a.loc.length ≤ 255 := by
  rw [Srv.migrateOrder_eq] at h
  split at h
  · rename_i hg; exact ⟨hg.1, fun a ha => (hg.2 a ha).symm⟩
  · cases h

/-- An existing entry is kept as it is unless a signed entry for the same key says banned. -/
theorem c17_merge_existing (m : FMap Key CServer) (l : List AuthServer) (k : Key) (e : CServer)
    (h : m.get k = some e) :
    (mergeServers m l).get k = some e ∨
    ∃ a ∈ l, a.key = k ∧ a.banned = true ∧ (mergeServers m l).get k = some (toC a) := by
  rcases get_mergeServers m l k with h1 | ⟨a, ha, hk, hw, h1⟩
  · exact .inl (h1.trans h)
  · exact .inr ⟨a, ha, hk, hw.resolve_left (by rw [h]; nofun), h1⟩

/-- Banned never reverts at the client. -/
theorem c17_merge_ban_monotone (m : FMap Key CServer) (l : List AuthServer) (k : Key) (e : CServer)
    (h : m.get k = some e) (hb : e.banned = true) :
    ∃ e', (mergeServers m l).get k = some e' ∧ e'.banned = true := by
  rcases c17_merge_existing m l k e h with h1 | ⟨a, _, _, h3, h4⟩
  · exact ⟨e, h1, hb⟩
  · exact ⟨toC a, h4, by simpa [toC] using h3⟩

/-- Every entry of the merged map was there before or comes from the (signature-checked) list. -/
theorem c17_merge_origin (m : FMap Key CServer) (l : List AuthServer) (k : Key) (e : CServer)
    (h : (mergeServers m l).get k = some e) :
    m.get k = some e ∨ ∃ a ∈ l, a.key = k ∧ e = toC a := by
  rcases get_mergeServers m l k with h1 | ⟨a, ha, hk, -, h1⟩
  · exact .inl (h1 ▸ h)
  · exact .inr ⟨a, ha, hk, Option.some.inj (h.symm.trans h1)⟩

/-- The client changes GCA, device id and (wholesale) server list only on a
reply that carries a new GCA; by `c10_accept_implies_signed` such a reply holds
an order for this device's key signed by the current GCA, with at least one
server, each signed by the new GCA. Otherwise identity is untouched and the
list is merged. -/
theorem c17_adopt_identity (c : Client) (p : Parsed) :
    ((adopt c p).gcaKey ≠ c.gcaKey ∨ (adopt c p).shortId ≠ c.shortId) →
      (p.newGCA ≠ c.gcaKey ∧ p.newGCA ≠ zeros 32 ∧ (adopt c p).gcaKey = p.newGCA ∧
       (adopt c p).shortId = p.newId ∧ (adopt c p).servers = mergeServers [] p.servers) := by
  intro h
  unfold adopt at h ⊢
  split
  · rename_i hc
    exact ⟨hc.1, hc.2, rfl, rfl, rfl⟩
  · rename_i hc
    rw [if_neg hc] at h
    simp at h

/-- What is persisted is exactly what was adopted. -/
theorem c17_persisted_is_adopted (c : Client) (p : Parsed)
    (hd : c.diskGCA = c.gcaKey ∧ c.diskShortId = c.shortId) :
    (adopt c p).diskServers = (adopt c p).servers ∧ (adopt c p).diskGCA = (adopt c p).gcaKey ∧
    (adopt c p).diskShortId = (adopt c p).shortId := by
  unfold adopt
  split
  · exact ⟨rfl, rfl, rfl⟩
  · exact ⟨rfl, hd.1, hd.2⟩

/-- A migration is never adopted with an empty list (the device could not restart). -/
theorem c17_migration_nonempty (V : Verify) (ck gk sk : Key) (now : Nat) (resp : Bytes) (p : Parsed)
    (h : parseReply V ck gk sk now resp = some p) (hm : p.newGCA ≠ zeros 32) : p.servers ≠ [] := by
  obtain ⟨_, _, _, _, _, _, _, h7, _, rfl⟩ := parseReply_eq_some.1 h
  exact h7 hm

example : (mergeServers [(zeros 32, ⟨true, [], 1, 2, 3⟩)] [⟨zeros 32, false, [1], 9, 9, 9, zeros 64⟩]).get (zeros 32)
    = some ⟨true, [], 1, 2, 3⟩ := by decide

end Gca.Cl
