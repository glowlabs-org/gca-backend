import Gca.Timeslot
/-
C20 - Timeslot arithmetic is exact; production constants keep the window safe.
Specification-side theorems: they speak of `Gca/Timeslot.lean` alone and hold for every genesis,
trigger, period, half-width and window. The Go functions are tied to `toSlot`/`toUnix`/`inWindow` by the
generated BitVec definitions and their obligations in `Gca/Tie/Guards.lean`. The production values do not
appear here: genesis and the rotation check period are pinned to `Gca/Generated` in `Gca/Tie/Tables.lean`
(`genesis_prod`, `migration_period_prod`), 3200, 432, 4032 and 2016 are the literals of the guard
obligations, and `cadenceSafe` is evaluated by the driver on the check period of the production build.
-/
namespace Gca.TS

/-- Closed form: defined from genesis up to the end of the last 32-bit timeslot, and there the number of
whole 300-second periods since genesis. -/
theorem toSlot_eq (g t : Int) :
    toSlot g t = if g ≤ t ∧ t < g + 300 * 4294967296 then some ((t - g) / 300).toNat else none := by
  unfold toSlot
  split
  · rw [if_neg (by omega)]
  · split
    · rw [if_neg (by omega)]
    · rw [if_pos (by omega)]

/-- Times before genesis are refused. -/
theorem c20_before_genesis (g t : Int) (h : t < g) : toSlot g t = none := by
  rw [toSlot_eq, if_neg (by omega)]

/-- Exactly the times from genesis up to the end of the last 32-bit timeslot are accepted. -/
theorem c20_domain (g t : Int) : (toSlot g t).isSome ↔ (g ≤ t ∧ t < g + 300 * 4294967296) := by
  rw [toSlot_eq]
  split
  · exact iff_of_true rfl ‹_›
  · exact iff_of_false Bool.false_ne_true ‹_›

/-- The slot is the number of whole 300-second periods since genesis. -/
theorem c20_slot_value (g t : Int) (s : Nat) (h : toSlot g t = some s) : (s : Int) = (t - g) / 300 := by
  rw [toSlot_eq] at h
  split at h <;> cases h
  omega

/-- Converting to a timeslot and back gives the start of the same 5-minute slot. -/
theorem c20_roundtrip (g t : Int) (s : Nat) (h : toSlot g t = some s) :
    toUnix g s = t - (t - g) % 300 ∧ toUnix g s ≤ t ∧ t < toUnix g s + 300 := by
  have hv := c20_slot_value g t s h
  unfold toUnix
  omega

/-- A slot start converts back to its slot. -/
theorem c20_roundtrip' (g : Int) (s : Nat) (h : s < 4294967296) : toSlot g (toUnix g s) = some s := by
  have e : (toUnix g s - g) / 300 = s := by unfold toUnix; omega
  rw [toSlot_eq, e, if_pos (by unfold toUnix; omega)]
  rfl

/-- Conversion is monotone. -/
theorem c20_monotone (g t t' : Int) (s s' : Nat) (hle : t ≤ t')
    (h : toSlot g t = some s) (h' : toSlot g t' = some s') : s ≤ s' := by
  have := c20_slot_value g t s h
  have := c20_slot_value g t' s' h'
  omega

/-- Rotation cadence. With rotation trigger `trig`, check period `per` (in
slots), acceptance half-width `half` and window length `win`, if
`trig + per + half < win` then a report acceptable at any moment of normal
operation (the background loop has looked at the clock within the last `per`
slots, so `now - off ≤ trig + per`) lies before the end of the window. -/
theorem c20_cadence_upper (trig per half win off now ts : Int)
    (hc : trig + per + half < win) (hloop : now - off ≤ trig + per) (hacc : ts ≤ now + half) :
    ts < off + win := by omega

/-- ... and a rotation (which only happens when `now - off > trig` and moves
the window start by `shift`) never moves the start past a report that is still
acceptable, provided `half ≤ trig - shift`. -/
theorem c20_cadence_lower (trig half shift off now ts : Int)
    (hc : half + shift ≤ trig) (hrot : now - off > trig) (hacc : now - half ≤ ts) :
    off + shift ≤ ts := by omega

/-- What the executable test `cadenceSafe` (evaluated by the driver on the constants of the production
build) buys: both cadence statements. -/
theorem c20_cadence_safe (trig per half win shift off now ts : Int)
    (h : cadenceSafe trig per half win shift = true) :
    (now - off ≤ trig + per → ts ≤ now + half → ts < off + win) ∧
    (now - off > trig → now - half ≤ ts → off + shift ≤ ts) := by
  have h' := of_decide_eq_true h
  constructor <;> intros <;> omega

/-- The production constants pass, a 36-hour check period does not. -/
example : cadenceSafe 3200 (slotsOfNs 3600000000000) 432 4032 2016 = true ∧
    cadenceSafe 3200 (slotsOfNs (36 * 3600000000000)) 432 4032 2016 = false := by decide

/-- 1700352000 is Sunday 2023-11-19 00:00:00 UTC. -/
theorem c20_genesis_date : civil 1700352000 = (2023, 11, 19, 0, 0, 0, 0) := by decide

/-- Non-vacuity: a time inside a slot, at its boundary, and the last accepted second. -/
example : toSlot 1700352000 1700352299 = some 0 ∧ toSlot 1700352000 1700352300 = some 1 ∧
    toSlot 1700352000 (1700352000 + 300 * 4294967296 - 1) = some 4294967295 ∧
    toSlot 1700352000 (1700352000 + 300 * 4294967296) = none := by decide

end Gca.TS
