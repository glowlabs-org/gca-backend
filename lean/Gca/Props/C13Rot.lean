import Gca.Props.C01
/-
C13 (continued) - the week rotation commutes with every datagram whose leading 80 bytes, if they decode at all,
decode to a report of the SECOND week of the window (hypothesis `h2`; a datagram of the first week that is refused
for another reason is not covered). The parallel-burst job of the harness writes a burst
that contains the rotation as one sequential history, with the rotation placed right after the last
logged report of the week being archived; every later logged report lies in the second week, and this
statement is that it makes no difference on which side of the rotation such a report is placed.
-/
namespace Gca.Srv

theorem c13r_shiftList_set {α} {b : α} {l : List α} {i : Nat} {x : α} (hl : l.length = window)
    (h1 : week ≤ i) (h2 : i < window) :
    shiftList b (l.set i x) = (shiftList b l).set (i - week) x := by
  unfold shiftList
  have hd : i - week < (l.drop week).length := by
    rw [List.length_drop, hl]; exact Nat.sub_lt_sub_right h1 h2
  rw [List.drop_set, if_neg (Nat.not_lt.mpr h1), List.set_append, if_pos hd]

/-- The first week of the statistics does not see a report of the second week. -/
theorem c13r_devStats_keep {off : Nat} {d d' : Dev} {r : Report} {b : Bool}
    (h : integrateDev off d r = some (d', b)) (hlo : off + week ≤ r.ts) :
    devStats 0 d' = devStats 0 d := by
  rw [integrateDev_eq] at h
  split at h
  · obtain ⟨slot, _, h⟩ := Option.map_eq_some_iff.mp h
    cases h
    simp only [devStats, List.drop_zero]
    rw [List.take_set, List.set_eq_of_length_le (Nat.le_trans (List.length_take_le _ _) (Nat.le_sub_of_add_le' hlo))]
  · cases h; rfl

/-- Shifting the window by a week and the offset with it does not change what a second-week report does. -/
theorem c13r_integrateDev_shift {off : Nat} {d : Dev} {r : Report} (hlen : d.reports.length = window)
    (hlo : off + week ≤ r.ts) (hhi : r.ts < off + window) :
    integrateDev (off + week) (shiftDev d) r = (integrateDev off d r).map (fun q => (shiftDev q.1, q.2)) := by
  have h1 : off ≤ r.ts := Nat.le_trans (Nat.le_add_right _ _) hlo
  have hw : r.ts - off < week + week := Nat.sub_lt_left_of_lt_add h1 hhi
  have h3 : week ≤ r.ts - off := Nat.le_sub_of_add_le' hlo
  have hi : r.ts - off < d.reports.length := hlen ▸ hw
  have hget : (shiftList Report.zero d.reports)[r.ts - (off + week)]? = some d.reports[r.ts - off] := by
    rw [shiftList_lo hlen (Nat.sub_sub .. ▸ Nat.sub_lt_left_of_lt_add h3 hw), ← Nat.sub_sub, Nat.sub_add_cancel h3,
      List.getElem?_eq_getElem hi]
  rw [integrateDev_eq, integrateDev_eq,
    if_pos ⟨hlo, Nat.lt_of_lt_of_le hhi (Nat.add_le_add_right (Nat.le_add_right _ _) _)⟩, if_pos ⟨h1, hhi⟩,
    List.getElem?_eq_getElem hi]
  simp only [shiftDev, hget, Option.map_some]
  rw [c13r_shiftList_set hlen h3 hw, Nat.sub_sub]
  rfl

theorem c13r_integrate_rot (cfg : Cfg) (sgn : Bytes → Bytes) {s : State} {r : Report} (hinv : Inv s)
    (hlo : s.off + week ≤ r.ts) (hhi : r.ts < s.off + window) :
    integrate cfg (rotate sgn s).1 r = (integrate cfg s r).map (fun q => ((rotate sgn q.1).1, q.2)) := by
  have h0 := hinv.off_mod
  rw [rotate_eq sgn h0, integrate_eq, integrate_eq]
  simp only [FMap.get_map_val]
  cases hg : s.devices.get r.id with
  | none => rfl
  | some dv =>
    simp only [Option.map_some, Option.bind_some,
      c13r_integrateDev_shift (hinv.devOk _ _ hg).2.1 hlo hhi, Option.map_map]
    cases hi : integrateDev s.off dv r with
    | none => rfl
    | some q =>
      obtain ⟨d', b⟩ := q
      cases b with
      | false => simp only [Option.map_some, Function.comp, Bool.false_eq_true, if_false, rotate_eq sgn h0]
      | true =>
        simp only [Option.map_some, Function.comp, if_true]
        rw [rotate_eq sgn (by exact h0)]
        -- the archived week is the same, and shifting commutes with replacing the device
        have hW : statsWeek sgn (s.devices.set r.id d') 0 s.off = statsWeek sgn s.devices 0 s.off := by
          unfold statsWeek
          rw [FMap.map_set_same hg (c13r_devStats_keep hi hlo)]
        simp only [hW, FMap.set_map_val]

theorem c13r_admitted_rot (V : Verify) (sgn : Bytes → Bytes) {s : State} (now : Nat) (d : Bytes) (hinv : Inv s) :
    admitted V (rotate sgn s).1 now d = admitted V s now d := by
  refine admitted_congr (fun id => ?_) now d
  rw [rotate_eq sgn hinv.off_mod]
  exact (congrArg (Option.map Dev.auth) (FMap.get_map_val s.devices shiftDev id)).trans (Option.map_map ..)

/-- Both sides of the commutation at once. -/
theorem c13r_dgram_rot (cfg : Cfg) (V : Verify) (sgn : Bytes → Bytes) {s : State} (now : Nat) {d : Bytes}
    (hinv : Inv s)
    (h2 : ∀ r, Report.decode (d.take 80) = some r → s.off + week ≤ r.ts ∧ r.ts < s.off + window) :
    dgram cfg V (rotate sgn s).1 now d = ((rotate sgn (dgram cfg V s now d).1).1, (dgram cfg V s now d).2) := by
  rw [dgram_eq, dgram_eq, c13r_admitted_rot V sgn now d hinv]
  cases ha : admitted V s now d with
  | none => rfl
  | some r =>
    obtain ⟨hlo, hhi⟩ := h2 r (admitted_eq_some.mp ha).2.1
    dsimp only
    rw [c13r_integrate_rot cfg sgn hinv hlo hhi]
    cases integrate cfg s r <;> rfl

/-- Exact commutation on the whole state (memory, recent lists, disk). -/
theorem c13_rotate_commutes (cfg : Cfg) (V : Verify) (sgn : Bytes → Bytes) (s : State) (now : Nat) (d : Bytes)
    (hinv : Inv s)
    (h2 : ∀ r, Report.decode (d.take 80) = some r → s.off + week ≤ r.ts ∧ r.ts < s.off + window) :
    (dgram cfg V (rotate sgn s).1 now d).1 = (rotate sgn (dgram cfg V s now d).1).1 := by
  rw [c13r_dgram_rot cfg V sgn now hinv h2]

/-- ... and the datagram is answered the same way on either side. -/
theorem c13_rotate_commutes_out (cfg : Cfg) (V : Verify) (sgn : Bytes → Bytes) (s : State) (now : Nat) (d : Bytes)
    (hinv : Inv s)
    (h2 : ∀ r, Report.decode (d.take 80) = some r → s.off + week ≤ r.ts ∧ r.ts < s.off + window) :
    (dgram cfg V (rotate sgn s).1 now d).2 = (dgram cfg V s now d).2 := by
  rw [c13r_dgram_rot cfg V sgn now hinv h2]

/-- A report of the week being archived that arrives after the rotation is outside the window: dropped,
nothing changes (this is why a logged report of that week must precede the rotation). -/
theorem c13_first_week_after_rotation (cfg : Cfg) (V : Verify) (sgn : Bytes → Bytes) (s : State) (now : Nat) (d : Bytes)
    (hinv : Inv s)
    (h1 : ∀ r, Report.decode (d.take 80) = some r → r.ts < s.off + week) :
    dgram cfg V (rotate sgn s).1 now d = ((rotate sgn s).1, .dropped) := by
  apply c01_unchanged
  rintro ⟨_, r, dev, hd, _, _, _, _, hoff, _⟩
  rw [rotate_eq sgn hinv.off_mod] at hoff
  exact Nat.not_le.mpr (h1 r hd) hoff

end Gca.Srv
