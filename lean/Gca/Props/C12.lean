import Gca.Props.C01
import Gca.Props.C03
/-
C12 - No untrusted input or peer failure can crash or wedge the server
(the part a model can carry: no modelled handler reaches a panicking
operation - index out of range, nil map entry, nil response - for any input,
clock value and window offset). Blocked reads on idle connections, unreachable
peers' timeouts and bounded shutdown are runtime behaviour: exercised by
execution only (witnesses F4, F10 and the liveness probes of the harness).
-/
namespace Gca.Srv

/-- For every reachable state, every clock value and every request, no handler panics. -/
theorem c12_nopanic (cfg : Cfg) (V : Verify) (sgn : Bytes → Bytes) (s : State) (op : Op)
    (hinv : Inv s) (hop : OpWF op) (hre : ∀ f n, op ≠ .restart f n) :
    (step cfg V sgn s op).2 ≠ .panic := by
  cases op with
  | dgram now d => exact c01_nopanic cfg V s now d hinv
  | register k sig =>
    show (register V s k sig).2 ≠ _
    rw [register_eq]; split <;> simp
  | authorize a =>
    show (authorize cfg V s a).2 ≠ _
    rw [authorize_eq]
    split
    · rcases saveEquipment_cases cfg s a with e | e | ⟨_, _, _, _, e⟩ | ⟨_, _, _, e⟩ <;> rw [e] <;> simp
    · simp
  | rotate => simp [step, (inv_rotate sgn s hinv).2]
  | tick now =>
    simp only [step, tick]
    split
    · rw [(inv_rotate sgn s hinv).2]; simp
    · simp
  | restart f n => exact absurd rfl (hre f n)
  | stats tso => exact c03_no_panic sgn s tso hinv
  | sync id =>
    show sync s id ≠ _
    rw [sync_eq]
    cases s.devices.get id <;> nofun
  | authServer a =>
    obtain ⟨_, _, e, ho | ho, _⟩ := authServer_cases V s a <;> simp [step, e, ho]
  | migrate m =>
    show (migrateOrder V s m).2 ≠ _
    rw [migrateOrder_eq]; split <;> simp
  | impact id ts rate => simp [step]

/-- ... along every sequence of operations. -/
theorem c12_run_nopanic (cfg : Cfg) (V : Verify) (sgn : Bytes → Bytes) (s : State) (ops : List Op)
    (hinv : Inv s) (hops : ∀ op ∈ ops, OpWF op) (hre : ∀ op ∈ ops, ∀ f n, op ≠ .restart f n) :
    Out.panic ∉ (run cfg V sgn s ops).2 := by
  induction ops generalizing s with
  | nil => exact List.not_mem_nil
  | cons op ops ih =>
    have hop : OpWF op := hops op List.mem_cons_self
    rw [run_cons]
    exact List.not_mem_cons_of_ne_of_not_mem (c12_nopanic cfg V sgn s op hinv hop (hre op List.mem_cons_self)).symm
      (ih _ (inv_step cfg V sgn s op hinv hop) (fun o ho => hops o (List.mem_cons_of_mem _ ho))
        (fun o ho => hre o (List.mem_cons_of_mem _ ho)))

/-- The storage window is never indexed out of range: whatever the clock says
(also `offset+3600 ≤ now`, when reports for `offset+4032` are within the
acceptance range), a report is integrated only at an index below 4032. -/
theorem c12_index_in_range (off : Nat) (d : Dev) (r : Report) (hlen : d.reports.length = window) :
    integrateDev off d r ≠ none := by
  obtain ⟨_, _, e⟩ := integrateDev_succeeds off r hlen
  rw [e]; simp

/-- The impact job's write keeps the invariant in whatever state it finds. (The job chose `id` and `ts` in an earlier
critical section; `impactWrite` looks the device up again and tests the index against the offset of now, and does
nothing if either fails.) -/
theorem c12_impact_safe (s : State) (id ts rate : Nat) (hinv : Inv s) :
    Inv (impactWrite s id ts rate) :=
  inv_step {} (fun _ _ _ => false) (fun _ => []) s (.impact id ts rate) hinv trivial

/-- Non-vacuity: the datagram that used to crash the server (timeslot = offset+4032
while `now = offset+3650`) is dropped. -/
example :
    let a : Auth := ⟨1, zeros 32, 0, 0, 1000, 0, 0, 0, 0, zeros 64⟩
    let s : State := { devices := [(1, newDev a)], shortIds := [(zeros 32, 1)], gcaAvail := true }
    (dgram {} (fun _ _ _ => true) s 3650 (Report.encode ⟨1, 4032, 500, zeros 64⟩)).2 = .dropped := by decide

end Gca.Srv
