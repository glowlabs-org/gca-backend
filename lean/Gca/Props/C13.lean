import Gca.Server.Inv
import Gca.Props.C02
import Gca.Tie.Locks
/-
C13 - Concurrent operation is race-free, deadlock-free and equals a sequential run
(the part a model can carry).

* Lock discipline, for every control-flow path of every function of the server
  (and of the client and glow packages): decided on the skeletons regenerated
  from the source by the verified checker - `c13_lock_discipline` below unfolds
  what `Tie.locks_entries_ok` means through `Lock.check_sound`: no path unlocks a
  mutex it does not hold, takes a second mutex (no nesting, hence no lock-order
  deadlock), touches guarded server state outside its mutex, or returns with a
  mutex held.
* Sequential explanation: the unit of atomicity is the critical section. Every
  state-changing operation of the server model is ONE section, except the impact
  job, whose per-device write is a section of its own that looks the device up again (`impactWrite`: it keeps the
  invariant from any state, `c12_impact_safe`, and commutes with a datagram, `c13_impact_commutes`), and
  the read-only tails of sync / statistics / server-authorization replies, which
  the harness checks by injecting every interfering operation exactly between
  the sections (verifPoint sites). For single-section operations any interleaving
  IS a sequence; that the result does not depend on the order of datagrams is
  proved here.
The Go memory model and the scheduler are not modelled: data-race freedom is the
lockset condition on the skeletons; the race detector is supporting evidence only.
-/
namespace Gca.Srv

theorem c13h_fold_empty (cap : Nat) {x : Report} (hx : x.p = 0) {rs : List Report} (hv : ∀ r ∈ rs, ValidP r) :
    (rs.foldl (slotStep cap) x).p = (rs.foldl (slotStep cap) Report.zero).p := by
  cases rs with
  | nil => exact hx
  | cons r t =>
    have hr : ValidP r := hv r List.mem_cons_self
    rw [List.foldl_cons, List.foldl_cons, slotStep_empty cap hx hr.1, slotStep_empty cap rfl hr.1]

theorem c13h_slot_perm (cap : Nat) (x : Report) {rs rs' : List Report} (h : rs.Perm rs')
    (hv : ∀ r ∈ rs, ValidP r) :
    (rs.foldl (slotStep cap) x).p = (rs'.foldl (slotStep cap) x).p := by
  have hv' : ∀ r ∈ rs', ValidP r := fun r hr => hv r (h.mem_iff.2 hr)
  by_cases h1 : x.p = 1
  · rw [c02_ban_absorbing cap x rs h1, c02_ban_absorbing cap x rs' h1]
  · by_cases h0 : x.p = 0
    · rw [c13h_fold_empty cap h0 hv, c13h_fold_empty cap h0 hv']
      exact c02_perm cap rs rs' h hv
    · rw [c02h_foldl_stored cap rs ⟨h0, h1⟩, c02h_foldl_stored cap rs' ⟨h0, h1⟩, h.all_eq]

/-- What `Tie.locks_entries_ok` establishes, spelled out: for every extracted unit
entered with no lock held, every execution path ends with all mutexes released
and no locking mistake on the way. -/
theorem c13_lock_discipline (name : String) (p : Lock.Prog) (h : (name, p) ∈ Gen.Locks.entries)
    (o : Lock.Out) (hr : Lock.RunF p ⟨[], []⟩ o) : o = .done := by
  have h1 := Tie.locks_entries_ok
  rw [List.all_eq_true] at h1
  exact Lock.check_sound p [] (h1 (name, p) h) o hr

/-- The published value of every slot after delivering a batch of datagrams does
not depend on the order in which they arrive (same clock, no rotation in between). -/
theorem c13_order_independent (cfg : Cfg) (V : Verify) (s : State) (now : Nat) (ds ds' : List Bytes)
    (hinv : Inv s) (hp : ds.Perm ds') (id i : Nat) :
    let run := fun (l : List Bytes) => l.foldl (fun s d => (dgram cfg V s now d).1) s
    ((run ds).devices.get id).map (fun d => (d.reports[i]?).map (·.p)) =
    ((run ds').devices.get id).map (fun d => (d.reports[i]?).map (·.p)) := by
  -- both slots are folds of `slotStep` over the reports the batch carries for the slot (`foldl_dgram_slot`)
  have h := fun l => congrArg (Option.map (Option.map (·.p))) (foldl_dgram_slot cfg V now l s id i)
  simp only [Option.map_map] at h
  refine (h ds).trans (Eq.trans ?_ (h ds').symm)
  cases s.devices.get id with
  | none => rfl
  | some dv =>
    simp only [Option.map_some, Function.comp]
    cases dv.reports[i]? with
    | none => rfl
    | some x =>
      simp only [Option.map_some]
      rw [c13h_slot_perm dv.auth.cap x (hp.filterMap _) (filterMap_slotReport_valid V s now id i ds)]

/-- The impact job's write commutes with a datagram: either order gives the same devices. -/
theorem c13_impact_commutes (cfg : Cfg) (V : Verify) (s : State) (now : Nat) (d : Bytes) (id ts rate : Nat)
    (hinv : Inv s) (k : Nat) :
    (impactWrite (dgram cfg V s now d).1 id ts rate).devices.get k =
    ((dgram cfg V (impactWrite s id ts rate) now d).1).devices.get k := by
  have ha : admitted V (impactWrite s id ts rate) now d = admitted V s now d := by
    refine admitted_congr (fun j => ?_) now d
    rw [impactWrite_get, Option.map_map]
    split <;> rfl
  rw [impactWrite_get, dgram_get, dgram_get, impactWrite_get, ha, dgram_off, impactWrite_off, Option.map_map,
    Option.map_map]
  split <;> rfl

/-- A sync reply's key, offset, bitfield and migration order all come from one state (one critical section). -/
theorem c13_sync_atomic (s : State) (id : Nat) (d : Dev) (h : s.devices.get id = some d) :
    ∃ servers, sync s id = .syncReply d.auth.key s.off (d.reports.map (fun r => decide (r.p > 0)))
      (s.migs.get d.auth.key) servers := by
  rw [sync_eq, h]
  exact ⟨_, rfl⟩

/-! ### Sequential explanation of a parallel burst

The parallel-burst job writes a burst as "the reports in the order of the server's own log, then every
report that left no trace". That is a legitimate sequential history because a report which has no
effect on its slot keeps having none however many other reports reach the slot afterwards. -/

/-- A report has no effect on a slot exactly when the slot is banned or already holds that very report. -/
theorem c13_noeffect_iff (cap : Nat) (slot r : Report) :
    slotStep cap slot r = slot ↔ (slot.p = 1 ∨ slot = r) :=
  slotStep_eq_self cap slot r

/-- ... and it stays without effect after any further reports for that slot. -/
theorem c13_noeffect_stable (cap : Nat) (slot r : Report) (rs : List Report) (hr : ValidP r)
    (h : slotStep cap slot r = slot) :
    slotStep cap (rs.foldl (slotStep cap) slot) r = rs.foldl (slotStep cap) slot :=
  slotStep_noeffect_stable rs hr h

end Gca.Srv
