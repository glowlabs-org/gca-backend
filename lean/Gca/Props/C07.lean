import Gca.Server.Inv
/-
C07 - GCA registration is one-shot, gated by the temporary key, and irreversible.
`register` is one critical section (lock skeleton of registerGCA), so concurrent
batches are sequences in some order: statements over all operation sequences.
-/
namespace Gca.Srv

def c07h_SameGca (s s' : State) : Prop := s'.gcaKey = s.gcaKey ∧ s'.gcaAvail = s.gcaAvail

theorem c07h_same_banDevice (s : State) (id : Nat) (cur : Auth) : c07h_SameGca s (banDevice s id cur) :=
  ⟨rfl, rfl⟩

/-- A start only succeeds on a log of authorizations every one of which carries a signature of the GCA key
the server ends up with: a record that does not verify (a flipped bit, a foreign record) makes the start
fail - it is never skipped. -/
theorem c07_start_verifies_log (cfg : Cfg) (V : Verify) (sgn : Bytes → Bytes) (d : Disk) (tempKey fresh : Key)
    (now : Nat) (s' : State) (h : load cfg V sgn d tempKey fresh now = some s') :
    ∀ a ∈ d.auths, V s'.gcaKey (Auth.signingBytes a) a.sig = true := by
  obtain ⟨_, _, hs, _⟩ := load_reads h
  exact hs

/-- The filter predicate of `c07_once`: an accepted registration. -/
def c07h_isAcc : Op × Out → Bool := fun p => match p with | (.register _ _, .ok) => true | _ => false

/-- Only a registration writes the GCA key and flag, and only in an unregistered state; a restart reads back what the
registration wrote. -/
theorem c07h_eff_same {cfg : Cfg} {V : Verify} {sgn : Bytes → Bytes} {s s' : State} {op : Op} (hinv : Inv s)
    (e : Eff cfg V sgn s op s') (hreg : ∀ k g, op = .register k g → s.gcaAvail = true) : c07h_SameGca s s' := by
  cases e with
  | report _ hi => obtain ⟨_, _, _, rfl⟩ := integrate_frame hi; exact ⟨rfl, rfl⟩
  | register hav => cases hav.symm.trans (hreg _ _ rfl)
  | auth _ _ e => obtain ⟨_, _, _, _, rfl⟩ := e.frame; exact ⟨rfl, rfl⟩
  | restart hl =>
    obtain ⟨_, hg, _⟩ := load_reads hl
    exact hinv.gca.unique hg
  | _ => exact ⟨rfl, rfl⟩

theorem c07h_step (cfg : Cfg) (V : Verify) (sgn : Bytes → Bytes) {s : State} (op : Op) (hinv : Inv s) :
    (c07h_isAcc (op, (step cfg V sgn s op).2) = true →
      s.gcaAvail = false ∧ (step cfg V sgn s op).1.gcaAvail = true) ∧
    (c07h_isAcc (op, (step cfg V sgn s op).2) = false → c07h_SameGca s (step cfg V sgn s op).1) := by
  cases op with
  | register k sig =>
    have e : step cfg V sgn s (.register k sig) = _ := register_eq V s k sig
    rw [e]
    split
    · exact ⟨fun _ => ⟨‹_ ∧ _›.1, rfl⟩, nofun⟩
    · exact ⟨nofun, fun _ => ⟨rfl, rfl⟩⟩
  | _ =>
    exact ⟨fun h => (Bool.false_ne_true h).elim, fun _ => c07h_eff_same hinv (step_eff cfg V sgn s _) (by simp)⟩

/-- One step from an unregistered state stays unregistered unless it is an accepted registration. -/
theorem c07h_step_avail_false (cfg : Cfg) (V : Verify) (sgn : Bytes → Bytes) (s : State) (op : Op)
    (hinv : Inv s) (h : s.gcaAvail = false) (hacc : c07h_isAcc (op, (step cfg V sgn s op).2) = false) :
    (step cfg V sgn s op).1.gcaAvail = false :=
  ((c07h_step cfg V sgn op hinv).2 hacc).2.trans h

theorem c07h_once_aux (cfg : Cfg) (V : Verify) (sgn : Bytes → Bytes) (ops : List Op) (s : State)
    (hinv : Inv s) (hops : ∀ op ∈ ops, OpWF op) :
    (s.gcaAvail = true → ((ops.zip (run cfg V sgn s ops).2).filter c07h_isAcc).length = 0) ∧
    ((ops.zip (run cfg V sgn s ops).2).filter c07h_isAcc).length ≤ 1 := by
  induction ops generalizing s with
  | nil => simp [run]
  | cons op ops ih =>
    have hop : OpWF op := hops op (List.mem_cons_self ..)
    have hinv' := inv_step cfg V sgn s op hinv hop
    have ih' := ih (step cfg V sgn s op).1 hinv' (fun o ho => hops o (List.mem_cons_of_mem _ ho))
    rw [run_cons]
    simp only [List.zip_cons_cons, List.filter_cons]
    cases hacc : c07h_isAcc (op, (step cfg V sgn s op).2) with
    | true =>
      obtain ⟨hun, hav⟩ := (c07h_step cfg V sgn op hinv).1 hacc
      simp [ih'.1 hav, hun]
    | false =>
      have hs := (c07h_step cfg V sgn op hinv).2 hacc
      exact ⟨fun hav => ih'.1 (hs.2.trans hav), ih'.2⟩

/-- A registration is accepted only when none was accepted before and the
signature verifies under the pre-installed temporary key. -/
theorem c07_gate (V : Verify) (s : State) (key sig : Bytes) :
    (register V s key sig).2 = .ok ↔
      (s.gcaAvail = false ∧ V s.tempKey (Registration.signingBytes key) sig = true) := by
  rw [register_eq]
  split <;> simp [*]

/-- An accepted registration installs exactly the submitted key, in memory and on disk. -/
theorem c07_installs (V : Verify) (s : State) (key sig : Bytes) (h : (register V s key sig).2 = .ok) :
    (register V s key sig).1.gcaKey = key ∧ (register V s key sig).1.gcaAvail = true ∧
    (register V s key sig).1.disk.gcaKey = some key := by
  rw [register_eq, if_pos ((c07_gate V s key sig).1 h)]
  exact ⟨rfl, rfl, rfl⟩

/-- Until a registration is accepted the server authorizes no equipment. -/
theorem c07_no_authorization_before (cfg : Cfg) (V : Verify) (s : State) (a : Auth) (h : s.gcaAvail = false) :
    authorize cfg V s a = (s, .refused) := by
  rw [authorize_eq, if_neg (by simp [h])]

/-- Irreversible: once a key is registered, no operation sequence whatsoever
(including registrations signed by the temporary key or by the GCA itself, and
restarts) changes it. -/
theorem c07_irreversible (cfg : Cfg) (V : Verify) (sgn : Bytes → Bytes) (s : State) (ops : List Op)
    (hinv : Inv s) (hops : ∀ op ∈ ops, OpWF op) (h : s.gcaAvail = true) :
    (run cfg V sgn s ops).1.gcaAvail = true ∧ (run cfg V sgn s ops).1.gcaKey = s.gcaKey := by
  refine run_induct (P := fun t => t.gcaAvail = true ∧ t.gcaKey = s.gcaKey) hops (fun _ _ _ _ ht hp e => ?_) hinv
    ⟨h, rfl⟩
  have hs := c07h_eff_same ht e fun _ _ _ => hp.1
  exact ⟨hs.2.trans hp.1, hs.1.trans hp.2⟩

/-- Exactly one: in any operation sequence at most one registration is accepted. -/
theorem c07_once (cfg : Cfg) (V : Verify) (sgn : Bytes → Bytes) (s : State) (ops : List Op)
    (hinv : Inv s) (hops : ∀ op ∈ ops, OpWF op) :
    ((ops.zip (run cfg V sgn s ops).2).filter
      (fun p => match p with | (.register _ _, .ok) => true | _ => false)).length ≤ 1 :=
  (c07h_once_aux cfg V sgn ops s hinv hops).2

/-- Authority: equipment authorizations, server authorizations and migration
orders are honoured only if they verify under the key in `gcaKey`, which is the
registered key (or the all-zero key before registration, under which nothing is
honoured if the signature scheme verifies nothing under it: `c07_nothing_before_registration`). -/
theorem c07_authority_authorize (cfg : Cfg) (V : Verify) (s : State) (a : Auth)
    (h : (authorize cfg V s a).2 = .okNew ∨ (authorize cfg V s a).2 = .ok ∨ (authorize cfg V s a).2 = .banned) :
    s.gcaAvail = true ∧ V s.gcaKey (Auth.signingBytes a) a.sig = true := by
  refine Classical.byContradiction fun hg => ?_
  rw [authorize_eq, if_neg hg] at h
  simp at h

theorem c07_authority_server (V : Verify) (s : State) (a : AuthServer)
    (h : (authServer V s a).1 ≠ s) : V s.gcaKey (AuthServer.signingBytes a) a.sig = true := by
  obtain ⟨l, o, e, _, hl⟩ := authServer_cases V s a
  rcases hl with rfl | ⟨hv, _⟩
  · exact absurd (by rw [e]) h
  · exact hv

theorem c07_authority_migration (V : Verify) (s : State) (m : Migration)
    (h : (migrateOrder V s m).1 ≠ s) : V s.gcaKey (Migration.signingBytes m) m.sig = true := by
  rw [migrateOrder_eq] at h
  split at h
  · rename_i hg; exact hg.1
  · exact absurd rfl h

/-- Before registration nothing is honoured at all (zero key verifies nothing). -/
theorem c07_nothing_before_registration (V : Verify) (s : State) (hinv : Inv s) (h : s.gcaAvail = false)
    (hzero : ∀ m sg, V (zeros 32) m sg = false) (a : AuthServer) (m : Migration) :
    authServer V s a = (s, .refused) ∧ migrateOrder V s m = (s, .refused) := by
  have hk := (hinv.gcaUn h).1
  constructor
  · simp [authServer, hk, hzero]
  · rw [migrateOrder_eq, if_neg (by simp [hk, hzero])]

/-- Non-vacuity: a first registration succeeds, a second (even identical) one is refused. -/
example :
    let V : Verify := fun _ _ _ => true
    let s1 := (register V {} (zeros 32) (zeros 64))
    s1.2 = .ok ∧ (register V s1.1 (zeros 32) (zeros 64)).2 = .refused := by decide

end Gca.Srv
