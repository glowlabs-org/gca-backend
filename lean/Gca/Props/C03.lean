import Gca.Server.Inv
/-
C03 - Weekly statistics equal the accepted reports and never change once archived.
(Signatures: `buildStats` signs `Week.signingBytes`, whose layout is C15; that
the served signature verifies under the server key is checked by execution.)
-/
namespace Gca.Srv

theorem c03h_statsQuery_live (sgn : Bytes → Bytes) {s : State} {tso : Nat}
    (h1 : tso % week = 0) (hx : tso = s.off ∨ tso = s.off + week) :
    statsQuery sgn s tso = Out.stats (statsWeek sgn s.devices (tso - s.off) tso) := by
  unfold statsQuery
  rw [if_neg (not_not_intro h1), buildStats_eq]
  rcases hx with rfl | rfl
  · rw [if_neg (Nat.lt_irrefl _), if_pos (And.intro h1 (And.intro (Nat.le_refl _) (Nat.le_add_right _ _))),
      if_neg (Nat.ne_of_lt (Nat.lt_add_of_pos_right (by decide))), Nat.sub_self]
  · rw [if_neg (Nat.not_lt.mpr (Nat.le_add_right _ _)), if_pos (And.intro h1 (And.intro (Nat.le_add_right _ _) (Nat.le_refl _))),
      if_pos rfl, Nat.add_sub_cancel_left]

/-- Live weeks: the first or second week of the window is served with exactly
the per-slot values and impact rates in memory, one entry per authorized
(non-banned) device, labelled with the requested offset. -/
theorem c03_live (sgn : Bytes → Bytes) (s : State) (tso : Nat) (hinv : Inv s)
    (h : tso = s.off ∨ tso = s.off + week) :
    ∃ w, statsQuery sgn s tso = .stats w ∧ w.tso = tso ∧
      w.devs = s.devices.map (fun p => devStats (tso - s.off) p.2) ∧
      w.sig = sgn (Week.signingBytes { w with sig := [] }) := by
  have hmod' : tso % week = 0 := by
    rcases h with h | h <;> subst h <;> simp [hinv.off_mod]
  exact ⟨_, c03h_statsQuery_live sgn hmod' h, rfl, rfl, rfl⟩

/-- Per slot: entry `i` of a device's live statistics is the power stored for timeslot `tso + i`. -/
theorem c03_live_values (x : Nat) (d : Dev) (i : Nat) (hlen : d.reports.length = window)
    (hil : d.impact.length = window) (hx : x = 0 ∨ x = week) (hi : i < week) :
    (devStats x d).powers[i]? = (d.reports[x + i]?).map (·.p) ∧
    (devStats x d).impacts[i]? = d.impact[x + i]? ∧
    (devStats x d).key = d.auth.key := by
  dsimp only [devStats]
  rw [List.getElem?_map, List.getElem?_take_of_lt hi, List.getElem?_take_of_lt hi, List.getElem?_drop,
    List.getElem?_drop]
  exact ⟨rfl, rfl, rfl⟩

/-- Misaligned and future weeks are refused. -/
theorem c03_refused (sgn : Bytes → Bytes) (s : State) (tso : Nat)
    (h : tso % week ≠ 0 ∨ tso > s.off + week) : statsQuery sgn s tso = .refused := by
  unfold statsQuery
  by_cases hm : tso % week ≠ 0
  · rw [if_pos hm]
  · have h2 := h.resolve_left hm
    rw [if_neg hm, if_neg (Nat.lt_asymm (Nat.lt_of_le_of_lt (Nat.le_add_right _ _) h2)), buildStats_eq,
      if_neg fun c => Nat.not_le.mpr h2 c.2.2]

/-- Archived weeks are served from the history: week `k` is `history[k]`. -/
theorem c03_archived (sgn : Bytes → Bytes) (s : State) (k : Nat) (hinv : Inv s) (hk : k < s.history.length) :
    statsQuery sgn s (week * k) = .stats s.history[k] := by
  have hlt : week * k < s.off := hinv.offHist ▸ Nat.mul_lt_mul_of_pos_left hk (by decide)
  unfold statsQuery
  rw [if_neg (by simp), if_pos hlt, Nat.mul_div_cancel_left k (by decide), List.getElem?_eq_getElem hk]

/-- No statistics request can panic (the archive index is always in range). -/
theorem c03_no_panic (sgn : Bytes → Bytes) (s : State) (tso : Nat) (hinv : Inv s) :
    statsQuery sgn s tso ≠ .panic := by
  unfold statsQuery
  by_cases hm : tso % week ≠ 0
  · rw [if_pos hm]; nofun
  rw [if_neg hm]
  by_cases hlt : tso < s.off
  · rw [if_pos hlt, List.getElem?_eq_getElem (Nat.div_lt_of_lt_mul (hinv.offHist ▸ hlt))]; nofun
  · rw [if_neg hlt]; cases buildStats sgn s tso <;> nofun

/-- Rotation: the archived record is what a query for the first live week
would have returned; every slot's value and impact rate moves down by one
week unchanged; the second half is blank; the offset advances by one week. -/
theorem c03_rotate (sgn : Bytes → Bytes) (s : State) (hinv : Inv s) :
    let s' := (rotate sgn s).1
    (rotate sgn s).2 = .ok ∧
    statsQuery sgn s s.off = .stats (s'.history.getLast?.getD default) ∧
    s'.history = s.history ++ [s'.history.getLast?.getD default] ∧
    s'.disk.weeks = s.disk.weeks ++ [s'.history.getLast?.getD default] ∧
    s'.off = s.off + week ∧
    ∀ id d, s.devices.get id = some d → ∃ d', s'.devices.get id = some d' ∧ d'.auth = d.auth ∧
      (∀ i, i < week → d'.reports[i]? = d.reports[i + week]? ∧ d'.impact[i]? = d.impact[i + week]?) ∧
      (∀ i, week ≤ i → i < window → d'.reports[i]? = some Report.zero ∧ d'.impact[i]? = some 0) := by
  have hmod := hinv.off_mod
  rw [rotate_eq sgn hmod, c03h_statsQuery_live sgn hmod (Or.inl rfl)]
  refine ⟨rfl, by simp [statsWeek], by simp, by simp, rfl, fun id d hd => ?_⟩
  obtain ⟨_, hr, hi⟩ := hinv.devOk id d hd
  refine ⟨shiftDev d, ?_, rfl, fun i hi' => ?_, fun i h1 h2 => ?_⟩
  · exact (FMap.get_map_val _ shiftDev id).trans (congrArg (Option.map shiftDev) hd)
  · exact ⟨shiftList_lo hr hi', shiftList_lo hi hi'⟩
  · exact ⟨shiftList_hi hr h1 h2, shiftList_hi hi h1 h2⟩

/-- Weeks are archived contiguously from week 0, in every reachable state. -/
theorem c03_contiguous (cfg : Cfg) (V : Verify) (sgn : Bytes → Bytes) (s : State) (ops : List Op)
    (hinv : Inv s) (hops : ∀ op ∈ ops, OpWF op) :
    let s' := (run cfg V sgn s ops).1
    s'.off = week * s'.history.length ∧ ∀ k (h : k < s'.history.length), (s'.history[k]).tso = week * k :=
  let h := inv_run cfg V sgn hinv hops
  ⟨h.offHist, h.histTso⟩


theorem c03h_foldl_replayAuth_history (cfg : Cfg) (as : List Auth) (s : State) :
    (as.foldl (replayAuth cfg) s).history = s.history := by
  obtain ⟨_, _, _, _, e⟩ := foldl_replayAuth_frame cfg as s
  rw [e]

theorem c03h_eff_history {cfg : Cfg} {V : Verify} {sgn : Bytes → Bytes} {s s' : State} {op : Op} (hinv : Inv s)
    (e : Eff cfg V sgn s op s') : s.history <+: s'.history := by
  cases e with
  | report _ hi => obtain ⟨_, _, _, rfl⟩ := integrate_frame hi; exact List.prefix_rfl
  | auth _ _ e => obtain ⟨_, _, _, _, rfl⟩ := e.frame; exact List.prefix_rfl
  | rotate => exact List.prefix_append _ _
  | restart hl =>
    obtain ⟨_, _, _, hh⟩ := load_reads hl
    exact hinv.histDisk ▸ hh
  | _ => exact List.prefix_rfl

/-- Immutability: once a week is archived, the record served for it is
identical forever, whatever requests, reports, bans, rotations or restarts follow. -/
theorem c03_immutable (cfg : Cfg) (V : Verify) (sgn : Bytes → Bytes) (s : State) (ops : List Op)
    (hinv : Inv s) (hops : ∀ op ∈ ops, OpWF op) (k : Nat) (hk : k < s.history.length) :
    statsQuery sgn (run cfg V sgn s ops).1 (week * k) = .stats s.history[k] := by
  have hpre : s.history <+: (run cfg V sgn s ops).1.history :=
    run_induct (P := fun t => s.history <+: t.history) hops (fun _ _ _ _ ht hp e => hp.trans (c03h_eff_history ht e))
      hinv List.prefix_rfl
  rw [c03_archived sgn _ k (inv_run cfg V sgn hinv hops) (Nat.lt_of_lt_of_le hk hpre.length_le),
    hpre.getElem hk]

/-- Statistics requests never change the state (so no query parameter can). -/
theorem c03_query_pure (cfg : Cfg) (V : Verify) (sgn : Bytes → Bytes) (s : State) (tso : Nat) :
    (step cfg V sgn s (.stats tso)).1 = s := rfl

/-- Non-vacuity: rotating a state with one stored report archives it at its slot and empties the window. -/
example :
    let a : Auth := ⟨1, zeros 32, 0, 0, 1000, 0, 0, 0, 0, zeros 64⟩
    let r : Report := ⟨1, 5, 500, zeros 64⟩
    let s : State := { devices := [(1, { newDev a with reports := blankReports.set 5 r })], shortIds := [(zeros 32, 1)] }
    let s' := (rotate (fun _ => []) s).1
    s'.off = 2016 ∧ (s'.history.map (fun w => w.devs.map (fun d => d.powers[5]?))) = [[some 500]] ∧
    ((s'.devices.get 1).map (fun d => d.reports[5]?)) = some (some Report.zero) := by decide +kernel

end Gca.Srv
