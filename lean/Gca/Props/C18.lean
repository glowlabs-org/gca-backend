import Gca.EventLog
/-
C18 - Event log stays within its memory bound, keeps the newest events, never panics.
Statements over all operation sequences and all configurations (expiry any
integer, byte and line limits any natural numbers, including limits smaller
than one line).
-/
namespace Gca.EL

def sumCost (es : List Entry) : Int := (es.map cost).sum

@[simp] theorem sumCost_nil : sumCost [] = 0 := rfl
@[simp] theorem sumCost_cons (e : Entry) (es : List Entry) : sumCost (e :: es) = cost e + sumCost es := by
  simp [sumCost]
theorem sumCost_append (a b : List Entry) : sumCost (a ++ b) = sumCost a + sumCost b := by
  simp [sumCost]

/-- The cost is a function of the keys (the stored lines) alone. -/
theorem sumCost_eq (es : List Entry) :
    sumCost es = 2 * (((es.map (·.line)).map List.length).sum : Nat) := by
  induction es with
  | nil => rfl
  | cons e es ih => simp [ih, cost]; omega

theorem c18h_sumCost_nonneg (es : List Entry) : 0 ≤ sumCost es := by rw [sumCost_eq]; omega

theorem sumCost_keys {a b : List Entry} (h : (a.map (·.line)).Perm (b.map (·.line))) :
    sumCost a = sumCost b := by
  rw [sumCost_eq, sumCost_eq, (h.map _).sum_nat]

theorem c18h_insertByLast_perm (e : Entry) (k : Int) (r : List (Entry × Int)) :
    (insertByLast e k r).Perm ((e, k) :: r) := by
  induction r with
  | nil => simp [insertByLast]
  | cons p r ih =>
    obtain ⟨f, kf⟩ := p
    simp only [insertByLast]
    split
    · exact List.Perm.refl _
    · exact (List.Perm.cons _ ih).trans (List.Perm.swap _ _ _)

theorem c18h_insertByLast_sorted (e : Entry) (k : Int) {r : List (Entry × Int)}
    (h : r.Pairwise (fun a b => a.2 ≤ b.2)) :
    (insertByLast e k r).Pairwise (fun a b => a.2 ≤ b.2) := by
  induction r with
  | nil => simp [insertByLast]
  | cons p r ih =>
    obtain ⟨f, kf⟩ := p
    simp only [insertByLast]
    rw [List.pairwise_cons] at h
    split
    · next hk =>
      exact List.pairwise_cons.2 ⟨List.forall_mem_cons.2 ⟨Int.le_of_lt hk, fun b hb =>
        Int.le_trans (Int.le_of_lt hk) (h.1 b hb)⟩, List.pairwise_cons.2 h⟩
    · next hk =>
      refine List.pairwise_cons.2 ⟨fun b hb => ?_, ih h.2⟩
      rcases List.mem_cons.1 ((c18h_insertByLast_perm e k r).mem_iff.1 hb) with rfl | hb
      · exact Int.not_lt.1 hk
      · exact h.1 b hb

/-- `sortByLast` yields a permutation of the entries, ascending in last update. -/
theorem c18h_sortByLast_spec (es : List Entry) (order : List (Entry × Int)) (h : sortByLast es = some order) :
    (order.map (·.1)).Perm es ∧ order.Pairwise (fun a b => a.2 ≤ b.2) ∧
    ∀ p ∈ order, lastUp p.1 = some p.2 := by
  induction es generalizing order with
  | nil => simp [sortByLast] at h; subst h; simp
  | cons e es ih =>
    simp only [sortByLast] at h
    split at h
    · rename_i k r hk hr
      obtain ⟨h1, h2, h3⟩ := ih r hr
      simp at h; subst h
      refine ⟨?_, c18h_insertByLast_sorted e k h2, ?_⟩
      · exact ((c18h_insertByLast_perm e k r).map _).trans (by simpa using h1)
      · intro p hp
        have hp' := (c18h_insertByLast_perm e k r).mem_iff.1 hp
        rcases List.mem_cons.1 hp' with rfl | hp'
        · exact hk
        · exact h3 p hp'
    · simp at h

theorem c18h_sortByLast_some (es : List Entry) (h : ∀ e ∈ es, e.ups ≠ []) :
    ∃ order, sortByLast es = some order := by
  induction es with
  | nil => exact ⟨[], rfl⟩
  | cons e es ih =>
    obtain ⟨r, hr⟩ := ih (fun x hx => h x (List.mem_cons_of_mem _ hx))
    have he := h e (List.mem_cons_self)
    cases hk : lastUp e with
    | none => exact absurd (List.getLast?_eq_none_iff.1 hk) he
    | some k => exact ⟨insertByLast e k r, by simp [sortByLast, hk, hr]⟩

/-- Eviction removes a prefix of the least-recently-updated order, and only as
far as needed: after it the line fits, and with one eviction fewer it would not. -/
theorem c18_evict_minimal (need : Int) (maxB : Nat) (order : List (Entry × Int)) (size : Int)
    (ev : List Bytes) (sz : Int) (h : evict need maxB order size = some (ev, sz)) :
    ev = (order.take ev.length).map (·.1.line) ∧
    sz = size - sumCost ((order.take ev.length).map (·.1)) ∧
    need + sz ≤ maxB ∧
    ∀ j, j < ev.length → need + (size - sumCost ((order.take j).map (·.1))) > maxB := by
  induction order generalizing size ev sz with
  | nil =>
    rw [evict] at h
    split at h
    · cases h
    · cases h; simp; omega
  | cons p r ih =>
    rw [evict] at h
    split at h
    · rename_i hgt
      split at h
      · cases h
      · rename_i ev' sz' hr
        cases h
        obtain ⟨h1, h2, h3, h4⟩ := ih _ _ _ hr
        simp only [List.length_cons, List.take_succ_cons, List.map_cons, sumCost_cons]
        refine ⟨by rw [← h1], by omega, h3, fun j hj => ?_⟩
        cases j with
        | zero => simpa using hgt
        | succ j =>
          have := h4 j (by omega)
          simp only [List.take_succ_cons, List.map_cons, sumCost_cons]; omega
    · cases h; simp; omega

theorem c18h_evict_some (need : Int) (maxB : Nat) (order : List (Entry × Int)) (size : Int)
    (h : need + (size - sumCost (order.map (·.1))) ≤ maxB) :
    ∃ r, evict need maxB order size = some r := by
  induction order generalizing size with
  | nil =>
    rw [evict, if_neg (by simp at h; omega)]
    exact ⟨_, rfl⟩
  | cons p r ih =>
    rw [evict]
    split
    · obtain ⟨⟨ev, sz⟩, hr⟩ := ih (size - cost p.1) (by simp at h; omega)
      simp only [hr]; exact ⟨_, rfl⟩
    · exact ⟨_, rfl⟩

/-- Representation invariant of the logger. -/
structure Inv (l : Log) : Prop where
  exact   : l.size = sumCost l.entries                 -- accounting is exact
  bound   : sumCost l.entries ≤ l.maxB                 -- within the memory bound
  nonempty: ∀ e ∈ l.entries, e.ups ≠ []                -- every stored line has an update
  nodup   : (l.entries.map (·.line)).Nodup             -- map keys are distinct
  cut     : ∀ e ∈ l.entries, e.line.length ≤ l.maxLine -- lines are cut to the limit

/-- The invariant sees the entries only through their keys and through "has an
update": it passes to any log whose keys are those of `l` without the keys of
some `dead` entries, when the cost of `dead` is given back. -/
theorem Inv.of_keys {l : Log} (h : Inv l) {es dead : List Entry} {sz : Int}
    (hp : ((es ++ dead).map (·.line)).Perm (l.entries.map (·.line)))
    (hne : ∀ e ∈ es, e.ups ≠ []) (hsz : sz = l.size - sumCost dead) :
    Inv { l with entries := es, size := sz } := by
  have hsum := sumCost_keys hp
  rw [sumCost_append] at hsum
  have := h.exact; have := h.bound; have := c18h_sumCost_nonneg dead
  refine ⟨?_, ?_, hne, ?_, fun e he => ?_⟩
  · show sz = sumCost es; omega
  · show sumCost es ≤ l.maxB; omega
  · have := hp.nodup_iff.2 h.nodup
    rw [List.map_append] at this
    exact (List.nodup_append.1 this).1
  · obtain ⟨e', he', hl⟩ := List.mem_map.1 (hp.subset (List.mem_map_of_mem (List.mem_append_left _ he)))
    rw [← hl]; exact h.cut e' he'

theorem Inv.add {l : Log} (h : Inv l) (key : Bytes) (now : Int) (hkey : key.length ≤ l.maxLine)
    (hnew : ∀ e ∈ l.entries, e.line ≠ key) (hfit : l.size + 2 * (key.length : Int) ≤ l.maxB) :
    Inv { l with entries := l.entries ++ [⟨key, [now]⟩], size := l.size + 2 * (key.length : Int) } := by
  have hs : sumCost (l.entries ++ [⟨key, [now]⟩]) = l.size + 2 * (key.length : Int) := by
    rw [sumCost_append, ← h.exact]; rfl
  refine ⟨hs.symm, hs ▸ hfit,
    List.forall_mem_append.2 ⟨h.nonempty, List.forall_mem_singleton.2 (List.cons_ne_nil _ _)⟩, ?_,
    List.forall_mem_append.2 ⟨h.cut, List.forall_mem_singleton.2 hkey⟩⟩
  rw [List.map_append, List.nodup_append]
  exact ⟨h.nodup, List.pairwise_singleton _ _, List.forall_mem_map.2 fun e he b hb =>
    List.mem_singleton.1 hb ▸ hnew e he⟩

theorem expire_maxB (l : Log) (now : Int) : (expire l now).maxB = l.maxB := rfl
@[simp] theorem expire_maxLine (l : Log) (now : Int) : (expire l now).maxLine = l.maxLine := rfl
@[simp] theorem expire_expiry (l : Log) (now : Int) : (expire l now).expiry = l.expiry := rfl

theorem c18h_expire_nonempty (l : Log) (now : Int) : ∀ e ∈ (expire l now).entries, e.ups ≠ [] :=
  fun e he h => by simpa [h] using (List.mem_filter.1 he).2

theorem c18h_inv_expire {l : Log} (now : Int) (h : Inv l) : Inv (expire l now) :=
  h.of_keys (((List.perm_append_comm.trans (List.filter_append_perm _ _)).map _).trans
    (.of_eq (by rw [List.map_map]; rfl))) (c18h_expire_nonempty l now) rfl

def c18h_bump (key : Bytes) (now : Int) (e : Entry) : Entry :=
  if e.line == key then { e with ups := e.ups ++ [now] } else e

theorem c18h_bump_line (key : Bytes) (now : Int) (e : Entry) : (c18h_bump key now e).line = e.line := by
  unfold c18h_bump; split <;> rfl

theorem c18h_inv_bump {l : Log} (h : Inv l) (key : Bytes) (now : Int) :
    Inv { l with entries := l.entries.map (c18h_bump key now) } :=
  h.of_keys (dead := []) (by simp [Function.comp_def, c18h_bump_line])
    (List.forall_mem_map.2 fun e he => by unfold c18h_bump; split <;> simp [h.nonempty e he]) (by simp)

theorem c18h_filter_evicted {es A B : List Entry} (hp : (A ++ B).Perm es)
    (hnd : (es.map (·.line)).Nodup) :
    (es.filter (fun e => !(A.map (·.line)).contains e.line)).Perm B := by
  have hnd' := (hp.map (·.line)).nodup_iff.2 hnd
  rw [List.map_append, List.nodup_append] at hnd'
  refine (hp.symm.filter _).trans (.of_eq ?_)
  rw [List.filter_append, List.filter_eq_nil_iff.2, List.filter_eq_self.2, List.nil_append]
  · intro b hb
    simpa using fun a ha hab => hnd'.2.2 _ (List.mem_map_of_mem ha) _ (List.mem_map_of_mem hb) hab
  · intro a ha
    simpa using ⟨a, ha, rfl⟩

theorem c18h_inv_insert (l : Log) (h : Inv l) (key : Bytes) (now : Int)
    (hkey : key.length ≤ l.maxLine) (hnew : ∀ e ∈ l.entries, e.line ≠ key)
    (A B : List Entry) (hp : (A ++ B).Perm l.entries) (sz : Int)
    (hsz : sz = l.size - sumCost A) (hfit : 2 * (key.length : Int) + sz ≤ l.maxB) :
    Inv { l with entries := (l.entries.filter (fun e => !(A.map (·.line)).contains e.line)) ++ [⟨key, [now]⟩],
                 size := sz + 2 * (key.length : Int) } :=
  (h.of_keys (dead := A)
    ((((c18h_filter_evicted hp h.nodup).append_right A).trans (List.perm_append_comm.trans hp)).map _)
    (fun e he => h.nonempty e (List.mem_filter.1 he).1) hsz).add key now hkey
    (fun e he => hnew e (List.mem_filter.1 he).1) (by show sz + _ ≤ (l.maxB : Int); omega)

/-- The body of `printf` after the expiry, with the log and the stored line as parameters (`printf_eq`), so that
`c18h_printfCore_spec` is about variables and not about `expire l now`. `c18h_bump` above is the model's own
update of the entry, under a name. -/
def c18h_printfCore (l : Log) (now : Int) (key : Bytes) : Option Log :=
  let need : Int := 2 * key.length
  if need > l.maxB then some l else
  if l.entries.any (fun e => e.line == key) then
    some { l with entries := l.entries.map (c18h_bump key now) }
  else
    let order := if need + l.size > l.maxB then sortByLast l.entries else some []
    match order with
    | none => none
    | some order =>
      match evict need l.maxB order l.size with
      | none => none
      | some (ev, sz) =>
        some { l with entries := (l.entries.filter (fun e => !ev.contains e.line)) ++ [⟨key, [now]⟩],
                      size := sz + need }

/-- The line as stored: cut to the per-line limit. -/
def cutLine (l : Log) (raw : Bytes) : Bytes := if raw.length > l.maxLine then raw.take l.maxLine else raw

theorem printf_eq (l : Log) (now : Int) (raw : Bytes) :
    printf l now raw = c18h_printfCore (expire l now) now (cutLine l raw) := rfl

theorem c18h_cutLine_le (l : Log) (raw : Bytes) : (cutLine l raw).length ≤ l.maxLine := by
  unfold cutLine
  split
  · simp; omega
  · omega

theorem c18h_printfCore_spec {l : Log} (h : Inv l) (now : Int) {key : Bytes} (hkey : key.length ≤ l.maxLine) :
    ∃ l', c18h_printfCore l now key = some l' ∧ Inv l' ∧
      (2 * (key.length : Int) ≤ l.maxB → ∃ e ∈ l'.entries, e.line = key ∧ e.ups.getLast? = some now) := by
  unfold c18h_printfCore
  by_cases hbig : 2 * (key.length : Int) > l.maxB
  · -- the line can never fit: nothing happens
    exact ⟨l, if_pos hbig, h, fun hh => by omega⟩
  rw [if_neg hbig]
  by_cases hany : l.entries.any (fun e => e.line == key)
  · -- a stored line: one more update
    rw [if_pos hany]
    refine ⟨_, rfl, c18h_inv_bump h key now, fun _ => ?_⟩
    obtain ⟨e, he, hek⟩ := List.any_eq_true.1 hany
    exact ⟨c18h_bump key now e, List.mem_map_of_mem he, (c18h_bump_line ..).trans (eq_of_beq hek),
      by unfold c18h_bump; rw [if_pos hek]; simp⟩
  rw [if_neg hany]
  have hnew : ∀ e ∈ l.entries, e.line ≠ key :=
    fun e he hk => hany (List.any_eq_true.2 ⟨e, he, beq_iff_eq.2 hk⟩)
  have hex := h.exact
  by_cases hover : 2 * (key.length : Int) + l.size > l.maxB
  · -- a new line that needs room: evict along the order of last update
    rw [if_pos hover]
    obtain ⟨order, hord⟩ := c18h_sortByLast_some l.entries h.nonempty
    obtain ⟨hperm, -, -⟩ := c18h_sortByLast_spec _ _ hord
    obtain ⟨⟨ev, sz⟩, hev⟩ := c18h_evict_some (2 * (key.length : Int)) l.maxB order l.size (by
      rw [sumCost_keys (hperm.map _)]; omega)
    obtain ⟨h1, h2, h3, -⟩ := c18_evict_minimal _ _ _ _ _ _ hev
    simp only [hord, hev]
    refine ⟨_, rfl, ?_, fun _ => ⟨_, List.mem_concat_self, rfl, rfl⟩⟩
    rw [h1.trans (List.map_map (g := Entry.line) (f := Prod.fst)).symm]
    exact c18h_inv_insert l h key now hkey hnew _ ((order.drop ev.length).map (·.1))
      (by rw [← List.map_append, List.take_append_drop]; exact hperm) sz h2 h3
  · -- a new line that fits as things are
    rw [if_neg hover]
    simp only []
    rw [evict, if_neg hover]
    exact ⟨_, rfl, c18h_inv_insert l h key now hkey hnew [] l.entries (by simp) l.size (by simp) (by omega),
      fun _ => ⟨_, List.mem_concat_self, rfl, rfl⟩⟩

/-- A dump lists exactly the stored lines, ordered by last update (ascending). -/
theorem c18_dump_sorted (l : Log) (now : Int) (h : Inv l) :
    ∃ l' order, dump l now = some (l', order.map (·.1.line)) ∧ l' = expire l now ∧
      sortByLast l'.entries = some order := by
  obtain ⟨order, hord⟩ := c18h_sortByLast_some (expire l now).entries (c18h_expire_nonempty l now)
  exact ⟨expire l now, order, by simp [dump, hord], rfl, hord⟩

/-- No call panics, and every call preserves the invariant (in particular the
size bound and exact accounting, also right after an expiry). -/
theorem c18_step (l : Log) (op : Op) (h : Inv l) : ∃ l', step l op = some l' ∧ Inv l' := by
  cases op with
  | printf now raw =>
    obtain ⟨l', h1, h2, -⟩ := c18h_printfCore_spec (c18h_inv_expire now h) now (c18h_cutLine_le l raw)
    exact ⟨l', (printf_eq l now raw).trans h1, h2⟩
  | expire now => exact ⟨_, rfl, c18h_inv_expire now h⟩
  | dump now =>
    obtain ⟨_, _, hd, rfl, -⟩ := c18_dump_sorted l now h
    exact ⟨_, by simp [step, hd], c18h_inv_expire now h⟩

theorem c18h_run_spec {l : Log} (ops : List Op) (h : Inv l) : ∃ l', run l ops = some l' ∧ Inv l' := by
  induction ops generalizing l with
  | nil => exact ⟨l, rfl, h⟩
  | cons op ops ih =>
    obtain ⟨l1, h1, hi⟩ := c18_step l op h
    obtain ⟨l2, h2, hi2⟩ := ih hi
    exact ⟨l2, by simp [run, h1, h2], hi2⟩

theorem inv_init (expiry : Int) (maxB maxLine : Nat) : Inv (init expiry maxB maxLine) := by
  refine ⟨rfl, ?_, ?_, ?_, ?_⟩ <;> simp [init]

/-- For every sequence of operations from a fresh logger: no panic, bound and
exact accounting hold at the end (hence, by prefix closure, at every point). -/
theorem c18_run (expiry : Int) (maxB maxLine : Nat) (ops : List Op) :
    ∃ l', run (init expiry maxB maxLine) ops = some l' ∧ Inv l' :=
  c18h_run_spec ops (inv_init expiry maxB maxLine)

/-- The most recent loggable line is always retained, with `now` as its last update. -/
theorem c18_retained (l : Log) (now : Int) (raw : Bytes) (h : Inv l)
    (hfit : 2 * ((cutLine l raw).length : Int) ≤ l.maxB) :
    ∃ l', printf l now raw = some l' ∧
      ∃ e ∈ l'.entries, e.line = cutLine l raw ∧ e.ups.getLast? = some now := by
  obtain ⟨l', h1, -, h3⟩ := c18h_printfCore_spec (c18h_inv_expire now h) now (c18h_cutLine_le l raw)
  exact ⟨l', (printf_eq l now raw).trans h1, h3 hfit⟩

/-- A line that can never fit is dropped and changes nothing but expiry. -/
theorem c18_unloggable (l : Log) (now : Int) (raw : Bytes)
    (hfit : ¬ 2 * ((cutLine l raw).length : Int) ≤ l.maxB) :
    printf l now raw = some (expire l now) := by
  unfold printf
  exact if_pos (Int.not_le.1 hfit)

/-- Expiry keeps exactly the entries that still have an update at or after the
cut, each with exactly those updates (for entries whose updates are in order). -/
theorem c18_expire_keeps (l : Log) (now : Int) (e : Entry) (he : e ∈ l.entries)
    (hs : e.ups.Pairwise (· ≤ ·)) :
    (∃ t ∈ e.ups, now - l.expiry ≤ t) ↔
      (⟨e.line, e.ups.filter (fun t => now - l.expiry ≤ t)⟩ : Entry) ∈ (expire l now).entries := by
  show _ ↔ _ ∈ List.filter _ (List.map _ _)
  rw [List.mem_filter, List.mem_map]
  constructor
  · rintro ⟨t, ht, hc⟩
    refine ⟨⟨e, he, ?_⟩, ?_⟩
    · -- the updates are in order, so dropping the leading expired ones is filtering them out
      exact congrArg (Entry.mk e.line) (dropWhile_eq_filter (fun t => by simp)
        (hs.imp fun hab ha => decide_eq_true (Int.le_trans (of_decide_eq_true ha) hab)))
    · rw [Bool.not_eq_true', List.isEmpty_eq_false_iff_exists_mem]
      exact ⟨t, List.mem_filter.2 ⟨ht, decide_eq_true hc⟩⟩
  · rintro ⟨-, hne⟩
    rw [Bool.not_eq_true', List.isEmpty_eq_false_iff_exists_mem] at hne
    obtain ⟨t, ht⟩ := hne
    exact ⟨t, (List.mem_filter.1 ht).1, of_decide_eq_true (List.mem_filter.1 ht).2⟩

/-- Non-vacuity: the configuration of the repaired defect (20 bytes, 100-byte
lines, two 10-byte lines separated by an expiry) runs without panic and reuses
the freed space. -/
example : (run (init 5 20 100) [.printf 0 (List.replicate 10 97), .printf 15 (List.replicate 10 98)]).map
    (fun l => (l.size, l.entries.map (·.line.length))) = some (20, [10]) := by decide

end Gca.EL
