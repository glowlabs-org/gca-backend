import Gca.Server.Model
/-
The record-level disk model of C04/C05 versus the bytes in the files: the
server writes `Auth.encode`, `Report.encode`, `Week.encode` records one after
another; at start-up it splits the authorization file into 148-byte chunks
(`buffer.Next(148)`), decodes the report file in 80-byte chunks and decodes the
statistics file with the stream decoder. The parsers below are the strict ones
(they refuse data that does not end on a record boundary); since the repair of
F25 the loaders first drop a partial trailing record, which is `Props/DiskTorn.lean`.
These theorems say that parsing the bytes of a well-formed record-level disk gives
back exactly that disk: a disk of records loses nothing of the files. Nothing here
mentions `load`. That `load` applied to the parsed records is what the Go loaders make
of the bytes is the modelling claim of `Server/Model.lean`; no theorem composes the two.
-/
namespace Gca.Srv

def encodeAuths : List Auth → Bytes
  | [] => []
  | a :: as => Auth.encode a ++ encodeAuths as

def encodeReports : List Report → Bytes
  | [] => []
  | r :: rs => Report.encode r ++ encodeReports rs

/-- `loadEquipment`'s first loop: chunks of 148 bytes, each must deserialize. -/
def parseAuths : Nat → Bytes → Option (List Auth)
  | 0, b => if b.isEmpty then some [] else none
  | fuel+1, b =>
    if b.isEmpty then some [] else
    match Auth.decode (b.take 148) with
    | none => none
    | some a => match parseAuths fuel (b.drop 148) with
      | none => none
      | some as => some (a :: as)

/-- `loadEquipmentReports`: length must be a multiple of 80, then 80-byte records. -/
def parseReports (b : Bytes) : Option (List Report) :=
  if b.length % 80 ≠ 0 then none else
  (List.range (b.length / 80)).mapM (fun i => Report.decode ((b.drop (80 * i)).take 80))

theorem mapM_range'_some {α} (f : Nat → Option α) (l : List α) (s : Nat)
    (h : ∀ i (hi : i < l.length), f (s + i) = some l[i]) :
    (List.range' s l.length).mapM f = some l := by
  induction l generalizing s with
  | nil => simp
  | cons a l ih =>
    have h0 := h 0 (by simp)
    have ih' := ih (s+1) (fun i hi => by
      have := h (i+1) (by simp; omega)
      simpa [Nat.add_assoc, Nat.add_comm 1 i] using this)
    simp only [List.length_cons, List.range'_succ, List.mapM_cons]
    simp at h0
    rw [h0, ih']
    rfl

theorem encodeReports_length {rs : List Report} (h : ∀ r ∈ rs, r.WF) :
    (encodeReports rs).length = 80 * rs.length :=
  length_concat rfl (fun _ _ => rfl) rs fun r hr => Report.encode_length r (h r hr).2.2.2

theorem encodeReports_chunk (rs : List Report) (h : ∀ r ∈ rs, r.WF) (i : Nat) (hi : i < rs.length) :
    ((encodeReports rs).drop (80 * i)).take 80 = Report.encode rs[i] := by
  induction rs generalizing i with
  | nil => simp at hi
  | cons r rs ih =>
    have hl := Report.encode_length r (h r (by simp)).2.2.2
    cases i with
    | zero =>
      simp only [encodeReports, Nat.mul_zero, List.drop_zero, List.getElem_cons_zero]
      rw [List.take_left' hl]
    | succ i =>
      have e : 80 * (i + 1) = 80 + 80 * i := by omega
      simp only [encodeReports]
      rw [e, ← List.drop_drop, List.drop_left' hl]
      exact ih (fun x hx => h x (by simp [hx])) i (by simpa using hi)

theorem parseAuths_encode {as : List Auth} (h : ∀ a ∈ as, a.WF) :
    parseAuths as.length (encodeAuths as) = some as := by
  induction as with
  | nil => simp [encodeAuths, parseAuths]
  | cons a as ih =>
    have hl := Auth.encode_length a (h a (by simp))
    have hne := isEmpty_append_of_pos (by rw [hl]; decide) (encodeAuths as)
    simp only [List.length_cons, encodeAuths, parseAuths, hne, List.take_left' hl, List.drop_left' hl,
      Auth.decode_encode a (h a (by simp))]
    rw [ih (fun v hv => h v (by simp [hv]))]
    simp

theorem parseReports_encode {rs : List Report} (h : ∀ r ∈ rs, r.WF) :
    parseReports (encodeReports rs) = some rs := by
  unfold parseReports
  have hl := encodeReports_length h
  rw [if_neg (by omega)]
  have e : (encodeReports rs).length / 80 = rs.length := by omega
  rw [e, List.range_eq_range']
  apply mapM_range'_some
  intro i hi
  rw [Nat.zero_add, encodeReports_chunk rs h i hi]
  exact Report.decode_encode _ (h _ (by simp))

/-- A torn or foreign report file (length not a multiple of 80) is refused, not misread. -/
theorem parseReports_ragged (b : Bytes) (h : b.length % 80 ≠ 0) : parseReports b = none := by
  unfold parseReports
  rw [if_pos h]

/-- The three logs of a well-formed disk parse back from their bytes. -/
theorem disk_bytes_roundtrip (d : Disk) (ha : ∀ a ∈ d.auths, a.WF) (hr : ∀ r ∈ d.reports, r.WF)
    (hw : ∀ w ∈ d.weeks, w.WF) :
    parseAuths d.auths.length (encodeAuths d.auths) = some d.auths ∧
    parseReports (encodeReports d.reports) = some d.reports ∧
    decodeStream d.weeks.length (encodeStream d.weeks) = some d.weeks :=
  ⟨parseAuths_encode ha, parseReports_encode hr,
    decodeStream_encodeStream hw (Nat.le_refl _)⟩

end Gca.Srv
