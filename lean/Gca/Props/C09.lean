import Gca.Client.Lemmas
/-
C09 - A device never signs two different reports for the same timeslot.

Store part (full strength): a reading once stored is returned unchanged by
every later read, is never overwritten by a different value, out-of-range
timeslots are refused rather than misplaced, and a save touches only its own slot.

Emission part: the client sends a record only after `save` accepted its value
truncated to 32 bits (tie: the send loop's control flow is checked by the
correspondence run against a UDP sink). Hence all values ever sent for a slot
that are not 0 modulo 2^32 agree modulo 2^32 - and are equal when they fit 32
signed bits. A value that is 0 modulo 2^32 is stored as an empty slot and binds
nothing. The full statement (equal for ALL 64-bit values) is FALSE of the
current code: witness `c09_mod32_witness` (known finding F17: the history file
keeps 32 bits).
-/
namespace Gca.Cl

/-- Any sequence of later saves (each may fail or succeed). -/
def saves (h : Hist) : List (Nat × Nat) → Hist
  | [] => h
  | (ts, v) :: r => saves ((h.save ts v).getD h) r

theorem saves_stable {h : Hist} {ts v : Nat} (hv : v ≠ 0) (hl : h.load ts = some v)
    (later : List (Nat × Nat)) : (saves h later).load ts = some v := by
  induction later generalizing h with
  | nil => exact hl
  | cons p r ih =>
    unfold saves
    cases hs : h.save p.1 p.2 with
    | none => exact ih hl
    | some h'' => exact ih (Hist.load_stable hl hv hs)

/-- A stored non-zero reading is returned unchanged by every later read, whatever is saved afterwards. -/
theorem c09_store_stable (h h' : Hist) (ts v : Nat) (hv : v ≠ 0) (hs : h.save ts v = some h')
    (later : List (Nat × Nat)) : (saves h' later).load ts = some v :=
  saves_stable hv (Hist.load_save hs) later

/-- An occupied slot refuses a different value and the store is unchanged. -/
theorem c09_no_overwrite (h : Hist) (ts v w : Nat) (hl : h.load ts = some v) (hv : v ≠ 0) (hw : w ≠ v) :
    h.save ts w = none := by
  cases hs : h.save ts w with
  | none => rfl
  | some h' => exact absurd (Hist.save_occupied hl hv hs) hw

/-- Timeslots before the origin and beyond the addressable range are refused. -/
theorem c09_range (h : Hist) (ts v : Nat) (hr : ts < h.origin ∨ ts - h.origin ≥ maxHistorySlots) :
    h.save ts v = none := by
  cases hs : h.save ts v with
  | none => rfl
  | some h' => have := Hist.save_spec hs; omega

/-- A save changes only its own slot. -/
theorem c09_frame (h h' : Hist) (ts v ts' : Nat) (hs : h.save ts v = some h') (hne : ts' ≠ ts) :
    h'.load ts' = h.load ts' ∧ h'.origin = h.origin := by
  obtain ⟨-, -, -, horigin, hload⟩ := Hist.save_spec hs
  exact ⟨(hload ts').trans (if_neg hne), horigin⟩

/-- The byte offset of an accepted slot fits 32 bits (so the Go `uint32`
arithmetic `4*(1+ts-origin)` is exact): tie `save_offset`/`load_offset`. -/
theorem c09_offset_fits (h : Hist) (ts : Nat) (hlo : h.origin ≤ ts) (hr : ts - h.origin < maxHistorySlots) :
    4 * (1 + (ts - h.origin)) < 2^32 := by
  unfold maxHistorySlots at hr; omega

/-- Emission: the values the client may send for a slot, given the sequence of
candidate 64-bit values `cands` offered for it over time (rows of successive
energy-file contents, in the order they are processed): a candidate is sent iff
saving its low 32 bits succeeds. -/
def emitted (h : Hist) (ts : Nat) : List Nat → List Nat
  | [] => []
  | e :: r => match h.save ts (e % 2^32) with
    | some h' => e :: emitted h' ts r
    | none => emitted h ts r

/-- An emitted value that is not 0 modulo 2^32 is what the slot holds, in its low 32 bits, once all
candidates have been offered. -/
theorem emitted_stored {ts : Nat} {cands : List Nat} {h : Hist} {x : Nat} (hx : x ∈ emitted h ts cands)
    (h0 : x % 2^32 ≠ 0) : (saves h (cands.map fun e => (ts, e % 2^32))).load ts = some (x % 2^32) := by
  induction cands generalizing h with
  | nil => cases hx
  | cons e r ih =>
    rw [emitted] at hx
    rw [List.map_cons, saves]
    cases hs : h.save ts (e % 2^32) with
    | none => rw [hs] at hx; exact ih hx
    | some h' =>
      rw [hs] at hx
      rcases List.mem_cons.1 hx with rfl | hx
      · exact saves_stable h0 (Hist.load_save hs) _
      · exact ih hx

/-- All emitted values that are not 0 modulo 2^32 agree modulo 2^32. One that is (2^32 itself, which is
no sentinel to the server) is stored as an empty slot and leaves the slot open to any later value:
`emitted ⟨0, []⟩ 7 [2^32, 5] = [2^32, 5]`. -/
theorem c09_no_equivocation_partial (h : Hist) (ts : Nat) (cands : List Nat) (a b : Nat)
    (ha : a ∈ emitted h ts cands) (hb : b ∈ emitted h ts cands)
    (ha0 : a % 2^32 ≠ 0) (hb0 : b % 2^32 ≠ 0) : a % 2^32 = b % 2^32 :=
  Option.some.inj ((emitted_stored ha ha0).symm.trans (emitted_stored hb hb0))

/-- ... hence identical when the readings fit 32 signed bits (two's complement in 64 bits). -/
theorem c09_no_equivocation_fits (h : Hist) (ts : Nat) (cands : List Nat) (a b : Nat)
    (ha : a ∈ emitted h ts cands) (hb : b ∈ emitted h ts cands)
    (ha0 : a % 2^32 ≠ 0) (hb0 : b % 2^32 ≠ 0)
    (fa : a < 2^31 ∨ 2^64 - 2^31 ≤ a ∧ a < 2^64) (fb : b < 2^31 ∨ 2^64 - 2^31 ≤ b ∧ b < 2^64) : a = b := by
  rw [← signExt32_mod fa, ← signExt32_mod fb, c09_no_equivocation_partial h ts cands a b ha hb ha0 hb0]

/-- The unrestricted statement is false: 500 and 4294967796 are both emitted for one slot (F17). -/
theorem c09_mod32_witness :
    emitted ⟨0, []⟩ 7 [500, 4294967796] = [500, 4294967796] := by decide

/-- Non-vacuity: a store with a gap; saving far ahead extends the file with zeros. -/
example : (Hist.save ⟨100, [5]⟩ 103 9) = some ⟨100, [5, 0, 0, 9]⟩ ∧ (Hist.save ⟨100, [5]⟩ 100 6) = none ∧
    (Hist.save ⟨100, [5]⟩ 99 6) = none ∧ Hist.load ⟨100, [5]⟩ 5000 = some 0 := by decide

/-- One event in the life of the client: a start (or restart) on the current
energy-file records, or one loop iteration on the records just read. -/
inductive LoopEv where
  | start (recs : List Record)
  | iter (recs : List Record)

/-- Everything the client sends over a sequence of events (store and `latest` threaded through;
a restart re-reads `latest` from the records it manages to save, as `launchSendReports` does). -/
def sentOver : Hist → Nat → List LoopEv → List Record
  | _, _, [] => []
  | h, _, .start recs :: evs => let (h', l) := startup h recs; sentOver h' l evs
  | h, latest, .iter recs :: evs =>
    let (h', l, sent) := loopIter h latest recs
    sent ++ sentOver h' l evs

/-- For the timeslot `t`: every non-zero (mod 2^32) record of `S` for `t` is what the store holds at `t`. -/
def SentGood (t : Nat) (h : Hist) (S : List Record) : Prop :=
  ∀ r ∈ S, r.ts = t → r.energy % 2^32 ≠ 0 → h.load t = some (r.energy % 2^32)

theorem SentGood.save {t : Nat} {h h' : Hist} {S : List Record} (hg : SentGood t h S) {ts v : Nat}
    (hs : h.save ts v = some h') : SentGood t h' S := by
  intro r hr ht h0
  exact Hist.load_stable (hg r hr ht h0) h0 hs

/-- The step of the fold in `loopIter`. -/
def iterStep (latest : Nat) (acc : Hist × List Record) (r : Record) : Hist × List Record :=
  match acc.1.save r.ts (r.energy % 2^32) with
  | none => acc
  | some h' => (h', if r.ts > latest then acc.2 ++ [r] else acc.2)

theorem loopIter_eq (h : Hist) (latest : Nat) (recs : List Record) :
    loopIter h latest recs =
      ((recs.foldl (iterStep latest) (h, [])).1,
       recs.foldl (fun l r => if r.ts > l then r.ts else l) latest,
       (recs.foldl (iterStep latest) (h, [])).2) := rfl

theorem iterFold_good (t latest : Nat) (S : List Record) (recs : List Record) (acc : Hist × List Record)
    (hg : SentGood t acc.1 (S ++ acc.2)) :
    SentGood t (recs.foldl (iterStep latest) acc).1 (S ++ (recs.foldl (iterStep latest) acc).2) := by
  induction recs generalizing acc with
  | nil => exact hg
  | cons r rs ih =>
    apply ih
    unfold iterStep
    cases hs : acc.1.save r.ts (r.energy % 2^32) with
    | none => exact hg
    | some h' =>
      have hg' := hg.save hs
      simp only
      split
      · intro x hx ht h0
        rw [← List.append_assoc, List.mem_append, List.mem_singleton] at hx
        rcases hx with hx | rfl
        · exact hg' x hx ht h0
        · rw [← ht]; exact Hist.load_save hs
      · exact hg'

/-- The step of the fold in `startup`. -/
def startStep (acc : Hist × Nat) (r : Record) : Hist × Nat :=
  match acc.1.save r.ts (r.energy % 2^32) with
  | none => acc
  | some h' => (h', if r.ts > acc.2 then r.ts else acc.2)

theorem startup_eq (h : Hist) (recs : List Record) : startup h recs = recs.foldl startStep (h, 0) := rfl

theorem startFold_good {t : Nat} {S : List Record} (recs : List Record) {acc : Hist × Nat}
    (hg : SentGood t acc.1 S) : SentGood t (recs.foldl startStep acc).1 S := by
  induction recs generalizing acc with
  | nil => exact hg
  | cons r rs ih =>
    apply ih
    unfold startStep
    cases hs : acc.1.save r.ts (r.energy % 2^32) with
    | none => exact hg
    | some h' => exact hg.save hs

/-- Some store (the last one) holds, for the timeslot `t`, every non-zero record sent over the events. -/
theorem sentOver_good (t : Nat) (evs : List LoopEv) (h : Hist) (latest : Nat) (S : List Record)
    (hg : SentGood t h S) : ∃ h', SentGood t h' (S ++ sentOver h latest evs) := by
  induction evs generalizing h latest S with
  | nil => exact ⟨h, by simpa [sentOver] using hg⟩
  | cons ev evs ih =>
    cases ev with
    | start recs => exact ih _ _ S (startup_eq h recs ▸ startFold_good recs hg)
    | iter recs =>
      obtain ⟨h', hg'⟩ := ih _ _ _ (iterFold_good t latest S recs (h, []) (by simpa using hg))
      exact ⟨h', by rwa [List.append_assoc] at hg'⟩

/-- Over any evolution of the energy file and any restarts, all records the client
sends for one timeslot whose low 32 bits are non-zero agree modulo 2^32 - and are
therefore identical when the values fit 32 signed bits. -/
theorem c09_loop_no_equivocation (h : Hist) (latest : Nat) (evs : List LoopEv) (a b : Record)
    (ha : a ∈ sentOver h latest evs) (hb : b ∈ sentOver h latest evs) (hts : a.ts = b.ts)
    (ha0 : a.energy % 2^32 ≠ 0) (hb0 : b.energy % 2^32 ≠ 0) : a.energy % 2^32 = b.energy % 2^32 := by
  obtain ⟨h', hg⟩ := sentOver_good b.ts evs h latest [] (fun _ hr => nomatch hr)
  exact Option.some.inj ((hg a ha hts ha0).symm.trans (hg b hb rfl hb0))

/-- Nothing is sent for a value the store refused: every sent record's low 32 bits are what the store holds. -/
theorem c09_sent_is_stored (h : Hist) (latest : Nat) (recs : List Record) (r : Record)
    (hr : r ∈ (loopIter h latest recs).2.2) :
    (loopIter h latest recs).1.load r.ts = some (r.energy % 2^32) ∨ r.energy % 2^32 = 0 := by
  rw [loopIter_eq] at hr ⊢
  have hg := iterFold_good r.ts latest [] recs (h, []) (fun _ hr => by simp at hr)
  by_cases h0 : r.energy % 2^32 = 0
  · exact Or.inr h0
  · exact Or.inl (hg r (by simpa using hr) rfl h0)

end Gca.Cl
