import Gca.Server.Inv
/-
C06 - Equipment changes need the GCA's signature; a conflict bans exactly one id.
(Persistence of bans across restart is part of C04: `c04_restart` preserves `bans`.)
-/
namespace Gca.Srv

/-- The set of authorized devices and the bans change only through `authorize` (and are reloaded, not
changed, by `restart`): every other state change leaves them alone, and `authorize` only ever adds a ban. -/
theorem c06_only_authorize {cfg : Cfg} {V : Verify} {sgn : Bytes → Bytes} {s s' : State} {op : Op}
    (e : Eff cfg V sgn s op s') (hre : ∀ f n, op ≠ .restart f n) :
    ((∀ a, op ≠ .authorize a) →
      (∀ id, (s'.devices.get id).map Dev.auth = (s.devices.get id).map Dev.auth) ∧ s'.bans = s.bans) ∧
    ∀ id ∈ s.bans, id ∈ s'.bans := by
  cases e with
  | report _ hi =>
    obtain ⟨d, d', hd, hi', rfl⟩ := integrate_some hi
    exact ⟨fun _ => ⟨FMap.get_set_map_same hd (integrateDev_keeps hi').1, rfl⟩, fun _ h => h⟩
  | auth _ _ e =>
    refine ⟨fun hop => absurd rfl (hop _), fun id h => ?_⟩
    cases e with
    | conflict => exact List.mem_append_left _ h
    | new => exact h
  | rotate =>
    exact ⟨fun _ => ⟨fun id => by rw [FMap.get_map_val, Option.map_map]; rfl, rfl⟩, fun _ h => h⟩
  | restart => exact absurd rfl (hre _ _)
  | impact hd => exact ⟨fun _ => ⟨FMap.get_set_map_same hd rfl, rfl⟩, fun _ h => h⟩
  | _ => exact ⟨fun _ => ⟨fun _ => rfl, rfl⟩, fun _ h => h⟩

/-- ... and `authorize` changes anything only with the registered GCA's valid signature. -/
theorem c06_signature_required (cfg : Cfg) (V : Verify) (s : State) (a : Auth)
    (h : ¬ (s.gcaAvail = true ∧ V s.gcaKey (Auth.signingBytes a) a.sig = true)) :
    authorize cfg V s a = (s, .refused) := by
  rw [authorize_eq, if_neg h]

/-- Resubmitting an identical authorization changes nothing. -/
theorem c06_duplicate_noop (cfg : Cfg) (V : Verify) (s : State) (a : Auth) (cur : Dev)
    (hs : s.gcaAvail = true) (hv : V s.gcaKey (Auth.signingBytes a) a.sig = true)
    (hnb : s.bans.contains a.id = false)
    (hc : s.devices.get a.id = some cur) (heq : authEq cur.auth a = true) :
    authorize cfg V s a = (s, .ok) := by
  rw [authorize_eq, if_pos ⟨hs, hv⟩]
  unfold saveEquipment
  rw [hnb, hc]
  exact if_pos heq

/-- A second, different authorization for a used id bans exactly that id. -/
theorem c06_conflict_bans_exactly (cfg : Cfg) (V : Verify) (s : State) (a : Auth) (cur : Dev) (hinv : Inv s)
    (hs : s.gcaAvail = true) (hv : V s.gcaKey (Auth.signingBytes a) a.sig = true)
    (hc : s.devices.get a.id = some cur) (hne : authEq cur.auth a = false) :
    let s' := (authorize cfg V s a).1
    (authorize cfg V s a).2 = .banned ∧
    a.id ∈ s'.bans ∧ s'.devices.get a.id = none ∧ s'.shortIds.get cur.auth.key = none ∧
    (∀ id, id ≠ a.id → s'.devices.get id = s.devices.get id) ∧
    (∀ k, k ≠ cur.auth.key → s'.shortIds.get k = s.shortIds.get k) ∧
    (∀ id, id ∈ s.bans → id ∈ s'.bans) ∧
    s'.history = s.history ∧ s'.off = s.off ∧ s'.gcaKey = s.gcaKey ∧
    s'.disk.auths = s.disk.auths ++ [a] ∧ s'.disk.weeks = s.disk.weeks ∧ s'.disk.reports = s.disk.reports := by
  have hnb : a.id ∉ s.bans := fun hb => nomatch (hinv.banned a.id hb).symm.trans hc
  have e : authorize cfg V s a =
      (banDevice { s with disk := { s.disk with auths := s.disk.auths ++ [a] },
                          recentA := pushRecent cfg.maxRecentAuth s.recentA a } a.id cur.auth, .banned) := by
    simp [authorize, saveEquipment, hs, hv, hc, hne, hnb]
  rw [e]
  refine ⟨rfl, ?_, ?_, ?_, ?_, ?_, ?_, rfl, rfl, rfl, rfl, rfl, rfl⟩
  · simp [banDevice]
  · exact FMap.get_del_same
  · exact FMap.get_del_same
  · intro id hid; exact FMap.get_del_ne (Ne.symm hid)
  · intro k hk; exact FMap.get_del_ne (Ne.symm hk)
  · intro id hid; simp [banDevice, hid]

/-- A banned id is refused from then on, whatever is submitted for it. -/
theorem c06_banned_refused (cfg : Cfg) (V : Verify) (s : State) (a : Auth) (h : a.id ∈ s.bans) :
    authorize cfg V s a = (s, .refused) := by
  rw [authorize_eq]
  split
  · simp [saveEquipment, h]
  · rfl

/-- Bans are permanent and the banned id stays absent, for every sequence of
operations that does not restart the server (restart: see C04). -/
theorem c06_ban_permanent (cfg : Cfg) (V : Verify) (sgn : Bytes → Bytes) (s : State) (ops : List Op) (id : Nat)
    (hinv : Inv s) (hops : ∀ op ∈ ops, OpWF op) (hre : ∀ op ∈ ops, ∀ f n, op ≠ .restart f n)
    (h : id ∈ s.bans) :
    id ∈ (run cfg V sgn s ops).1.bans ∧ (run cfg V sgn s ops).1.devices.get id = none := by
  have hb : id ∈ (run cfg V sgn s ops).1.bans :=
    run_rule (P := fun t => id ∈ t.bans) (fun _ _ op ho hp e => (c06_only_authorize e (hre op ho)).2 id hp) h
  exact ⟨hb, (inv_run cfg V sgn hinv hops).banned id hb⟩

/-- A banned id disappears from sync and from live statistics. -/
theorem c06_banned_views (sgn : Bytes → Bytes) (s : State) (id : Nat) (hinv : Inv s) (h : id ∈ s.bans) :
    sync s id = .syncRefused ∧
    ∀ tso w, buildStats sgn s tso = some w → w.devs.length = s.devices.length := by
  refine ⟨?_, ?_⟩
  · rw [sync_eq, hinv.banned id h]
  · intro tso w hw
    rw [buildStats_eq] at hw
    split at hw <;> cases hw
    exact List.length_map _

/-- `GET /api/v1/equipment` is the device table, nothing else: it answers for an id exactly what the
equipment map holds for it. -/
theorem c06_equipment_view (s : State) (id : Nat) :
    FMap.get (equipmentQuery s) id = (FMap.get s.devices id).map (·.auth) := by
  exact FMap.get_map_val s.devices (·.auth) id

/-- `GET /api/v1/recent-reports` answers for a key exactly when a registered, non-banned device owns
that key, and then with that device's window. -/
theorem c06_recent_view (s : State) (key : Key) (hinv : Inv s) :
    (∀ reps off, recentQuery s key = some (reps, off) →
      ∃ id d, FMap.get s.devices id = some d ∧ d.auth.key = key ∧ d.auth.id = id ∧ id ∉ s.bans ∧
        reps = d.reports ∧ off = 0) ∧
    (∀ id d, FMap.get s.devices id = some d → d.auth.key = key → recentQuery s key = some (d.reports, 0)) := by
  refine ⟨?_, ?_⟩
  · intro reps off h
    unfold recentQuery at h
    cases hk : FMap.get s.shortIds key with
    | none => simp [hk] at h
    | some id =>
      obtain ⟨d, hd, hkey⟩ := hinv.shortDev key id hk
      simp only [hk, hd, Option.some.injEq, Prod.mk.injEq] at h
      refine ⟨id, d, hd, hkey, (hinv.devOk id d hd).1, ?_, h.1.symm, h.2.symm⟩
      intro hb
      rw [hinv.banned id hb] at hd
      cases hd
  · intro id d hd hkey
    have := hinv.devShort id d hd
    rw [hkey] at this
    simp [recentQuery, this, hd]

/-- A banned id is gone from the equipment listing (and, by `c06_recent_view`, no recent-reports reply
is ever about a banned id). -/
theorem c06_banned_views_http (s : State) (id : Nat) (hinv : Inv s) (h : id ∈ s.bans) :
    FMap.get (equipmentQuery s) id = none := by
  rw [c06_equipment_view, hinv.banned id h]; rfl

/-- A new authorization adds exactly one device and touches nobody else. -/
theorem c06_new_device (cfg : Cfg) (V : Verify) (s : State) (a : Auth) (hinv : Inv s)
    (h : (authorize cfg V s a).2 = .okNew) :
    let s' := (authorize cfg V s a).1
    s'.devices.get a.id = some (newDev a) ∧ s'.shortIds.get a.key = some a.id ∧
    (∀ id, id ≠ a.id → s'.devices.get id = s.devices.get id) ∧
    (∀ k, k ≠ a.key → s'.shortIds.get k = s.shortIds.get k) ∧ s'.bans = s.bans := by
  rw [authorize_eq] at h ⊢
  split at h
  · rw [if_pos ‹_›]
    rcases saveEquipment_cases cfg s a with e | e | ⟨_, _, _, _, e⟩ | ⟨_, _, _, e⟩ <;> rw [e] at h ⊢ <;> cases h
    exact ⟨FMap.get_set_same, FMap.get_set_same, fun id hid => FMap.get_set_ne (Ne.symm hid),
      fun k hk => FMap.get_set_ne (Ne.symm hk), rfl⟩
  · cases h

/-- A key that already belongs to another id cannot be claimed by a new id. -/
theorem c06_key_in_use_refused (cfg : Cfg) (V : Verify) (s : State) (a : Auth)
    (hnew : s.devices.get a.id = none) (hused : s.shortIds.has a.key = true) :
    (authorize cfg V s a).1 = s := by
  rw [authorize_eq]
  split
  · rcases saveEquipment_cases cfg s a with e | e | ⟨_, _, hc, _⟩ | ⟨_, _, hk, _⟩
    · rw [e]
    · rw [e]
    · rw [hnew] at hc; cases hc
    · simp [FMap.has, hk] at hused
  · rfl

/-- The server's own consistency check holds in every reachable state. -/
theorem c06_check_invariants (cfg : Cfg) (V : Verify) (sgn : Bytes → Bytes) (tempKey fresh : Key) (now : Nat)
    (s0 : State) (ops : List Op) (hf : fresh.length = 32)
    (hb : boot cfg V sgn tempKey fresh now = some s0) (hops : ∀ op ∈ ops, OpWF op) :
    CheckInvariants (run cfg V sgn s0 ops).1 :=
  inv_checkInvariants (inv_run cfg V sgn (inv_boot hb) hops)

/-- Non-vacuity: authorize, then a conflicting authorization with another key bans id 1 only. -/
example :
    let V : Verify := fun _ _ _ => true
    let a1 : Auth := ⟨1, zeros 32, 0, 0, 1000, 0, 0, 0, 0, zeros 64⟩
    let a2 : Auth := ⟨2, List.replicate 32 7, 0, 0, 1000, 0, 0, 0, 0, zeros 64⟩
    let a1' : Auth := { a1 with key := List.replicate 32 9 }
    let s0 : State := { gcaAvail := true }
    let s1 := (authorize {} V s0 a1).1
    let s2 := (authorize {} V s1 a2).1
    let s3 := (authorize {} V s2 a1')
    s3.2 = .banned ∧ s3.1.bans = [1] ∧ s3.1.shortIds.get (zeros 32) = none ∧
    s3.1.shortIds.get (List.replicate 32 7) = some 2 ∧ (s3.1.devices.get 2).isSome := by decide

end Gca.Srv
