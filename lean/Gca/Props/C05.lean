import Gca.Props.C04
/-
C05 - A crash at any point leaves a server that starts and keeps the durable prefix.

Process-crash model of the property: completed system calls persist; an append
of one record and a write of one buffer are atomic; create/truncate and the
following write are separate. In the record-level disk model every operation
changes the disk by at most ONE such action, except:
  * registration (`ioutil.WriteFile`: truncate, then write)  - torn state: empty key file;
  * first start (`os.Create` then `Write` of server.keys)    - torn state: empty key file;
  * (re)start, which re-appends the reports it integrates    - torn states: any prefix of them;
  * catch-up rotations at start, which are ordinary rotations one after another.
(That each operation writes the file BEFORE it updates memory, and appends
without truncating, is tied to the source by the regenerated order facts
`save_equipment_order`, `save_gca_key_order`, `migrate_order` and by the
crash-point runs of the harness.)
So the disks a crash can expose are: the disk before an operation, the disk
after it, and the torn states above. Each of them loads, and what it loads to is
the state before or after the operation.
-/
namespace Gca.Srv

theorem c05h_eff_tempKey {cfg : Cfg} {V : Verify} {sgn : Bytes → Bytes} {s s' : State} {op : Op}
    (e : Eff cfg V sgn s op s') : s'.tempKey = s.tempKey := by
  cases e with
  | report _ hi => obtain ⟨_, _, _, rfl⟩ := integrate_frame hi; rfl
  | auth _ _ e => obtain ⟨_, _, _, _, rfl⟩ := e.frame; rfl
  | restart hl => exact (load_reads hl).1
  | _ => rfl

/-- A crash state: a disk that is in sync with the memory of `s` loads to a state observably equal to `s`. -/
theorem c05h_torn {cfg : Cfg} {V : Verify} {s : State} {d' : Disk} (fresh : Key) (h : Sync cfg V { s with disk := d' }) :
    ∃ t, loadCore cfg V d' s.tempKey fresh = some t ∧ ObsEq s t ∧ t.tempKey = s.tempKey := by
  obtain ⟨t, _, ht, ho, _, htk, _⟩ := c04h_sync_loadCore fresh h
  -- `ObsEq` does not read the disk, but `ObsEq { s with disk := d' } t` is not `ObsEq s t` as written: field by field
  exact ⟨t, ht, ⟨ho.gcaKey, ho.gcaAvail, ho.auths, ho.reports, ho.short, ho.bans, ho.off, ho.history⟩, htk⟩

/-- Crash between two operations, or inside one that changes the disk by a
single atomic action: the disk is the disk of the state before or after, both of
which are in sync; restarting yields that state. -/
theorem c05_boundary (cfg : Cfg) (V : Verify) (sgn : Bytes → Bytes) (s : State) (op : Op) (fresh : Key)
    (h : Sync cfg V s) (hop : OpWF op) :
    (∃ t, loadCore cfg V s.disk s.tempKey fresh = some t ∧ ObsEq s t ∧ Sync cfg V t) ∧
    (∃ t, loadCore cfg V (step cfg V sgn s op).1.disk s.tempKey fresh = some t ∧
      ObsEq (step cfg V sgn s op).1 t ∧ Sync cfg V t) := by
  refine ⟨sync_loadCore fresh h, ?_⟩
  have h2 := sync_loadCore fresh (sync_step sgn h hop)
  rwa [c05h_eff_tempKey (step_eff cfg V sgn s op)] at h2

/-- Every operation other than registration and restart changes the disk by at
most one append (so there is no intermediate disk state to consider). -/
theorem c05_single_action (cfg : Cfg) (V : Verify) (sgn : Bytes → Bytes) (s : State) (op : Op)
    (hreg : ∀ k g, op ≠ .register k g) (hre : ∀ f n, op ≠ .restart f n) :
    let d := s.disk; let d' := (step cfg V sgn s op).1.disk
    d' = d ∨ (∃ a, d' = { d with auths := d.auths ++ [a] }) ∨ (∃ r, d' = { d with reports := d.reports ++ [r] }) ∨
    (∃ w, d' = { d with weeks := d.weeks ++ [w] }) := by
  have e := step_eff cfg V sgn s op
  generalize (step cfg V sgn s op).1 = s' at e ⊢
  cases e with
  | report _ hi => obtain ⟨_, _, _, _, rfl⟩ := integrate_some hi; exact Or.inr (Or.inr (Or.inl ⟨_, rfl⟩))
  | register => exact absurd rfl (hreg _ _)
  | auth => exact Or.inr (Or.inl ⟨_, rfl⟩)
  | rotate => exact Or.inr (Or.inr (Or.inr ⟨_, rfl⟩))
  | restart => exact absurd rfl (hre _ _)
  | _ => exact Or.inl rfl

/-- Crash inside registration (key file truncated, not yet written): the server
starts, is unregistered exactly as before, and its GCA can still register. -/
theorem c05_register_torn (cfg : Cfg) (V : Verify) (s : State) (fresh key sig : Key)
    (h : Sync cfg V s) (hu : s.gcaAvail = false) (hk : key.length = 32)
    (hv : V s.tempKey (Registration.signingBytes key) sig = true) :
    ∃ t, loadCore cfg V { s.disk with gcaKey := some [] } s.tempKey fresh = some t ∧ ObsEq s t ∧
      t.tempKey = s.tempKey ∧ (register V t key sig).2 = .ok := by
  have hinv : Inv { s with disk := { s.disk with gcaKey := some [] } } :=
    .ofParts h.inv.maps h.inv.hist ⟨fun _ => ⟨(h.inv.gcaUn hu).1, Or.inr rfl⟩, fun hav => by rw [hu] at hav; cases hav⟩
  obtain ⟨t, ht, ho, htk⟩ := c05h_torn fresh
    (.of_mirrors h ⟨hinv, h.mirrors.auth, h.mirrors.rep, h.mirrors.devs⟩ rfl rfl rfl rfl rfl)
  refine ⟨t, ht, ho, htk, ?_⟩
  rw [register_eq, if_pos ⟨ho.gcaAvail.trans hu, htk.symm ▸ hv⟩]

/-- Crash during first start (key file created, not yet written): the next start succeeds with fresh keys. -/
theorem c05_keys_torn (cfg : Cfg) (V : Verify) (sgn : Bytes → Bytes) (tempKey fresh : Key) (now : Nat)
    (hf : fresh.length = 32) :
    ∃ t, load cfg V sgn { srvKeys := some [] } tempKey fresh now = some t ∧ t.srvPub = fresh ∧
      t.gcaAvail = false ∧ t.devices = [] := by
  obtain ⟨hc, hs0⟩ := c04h_sync_boot0 cfg V tempKey fresh hf
  have hcore : loadCore cfg V { srvKeys := some [] } tempKey fresh = loadCore cfg V {} tempKey fresh := by
    rfl
  obtain ⟨ws, dv, hdv, e⟩ := catchUp_frame sgn now (now / week + 2)
    { tempKey := tempKey, srvPub := fresh, disk := { srvKeys := some fresh } }
  refine ⟨_, load_of_core (hcore.trans hc) (inv_catchUp sgn now _ hs0.inv).2, ?_⟩
  rw [e]
  exact ⟨rfl, rfl, List.map_eq_nil_iff.mp hdv⟩

/-- Crash in the middle of a (re)start, after any number `k` of the re-appended
reports: the next start succeeds and reproduces the same observable state. -/
theorem c05_reload_torn (cfg : Cfg) (V : Verify) (s t : State) (fresh : Key) (k : Nat)
    (h : Sync cfg V s) (ht : loadCore cfg V s.disk s.tempKey fresh = some t) :
    ∃ u, loadCore cfg V { t.disk with reports := s.disk.reports ++ (t.disk.reports.drop s.disk.reports.length).take k }
        s.tempKey fresh = some u ∧ ObsEq s u := by
  obtain ⟨t', again, ht', _, _, _, hd, hag⟩ := c04h_sync_loadCore fresh h
  cases ht.symm.trans ht'
  have hm := h.mirrors.absorb (again := again.take k) fun x hx => hag x (List.mem_of_mem_take hx)
  obtain ⟨u, hu, ho, _⟩ := c05h_torn (d' := { s.disk with reports := s.disk.reports ++ again.take k }) fresh
    (.of_mirrors h ⟨.ofParts h.inv.maps h.inv.hist h.inv.gca, hm.auth, hm.rep, hm.devs⟩ rfl rfl rfl rfl rfl)
  refine ⟨u, ?_, ho⟩
  rw [hd]
  show loadCore cfg V { s.disk with reports := s.disk.reports ++ ((s.disk.reports ++ again).drop s.disk.reports.length).take k }
    s.tempKey fresh = _
  rw [List.drop_left]
  exact hu

/-- Whatever prefix of a history ran before the crash, and whichever of the
above crash states the disk is in, a start succeeds (never fails, never panics). -/
theorem c05_start_succeeds (cfg : Cfg) (V : Verify) (sgn : Bytes → Bytes) (tempKey fresh0 fresh : Key) (now0 now : Nat)
    (s0 : State) (ops : List Op) (hf0 : fresh0.length = 32) (hf : fresh.length = 32)
    (hb : boot cfg V sgn tempKey fresh0 now0 = some s0) (hops : ∀ op ∈ ops, OpWF op) :
    (load cfg V sgn (run cfg V sgn s0 ops).1.disk tempKey fresh now).isSome = true := by
  have hs0 := sync_boot hf0 hb
  have hs : Sync cfg V (run cfg V sgn s0 ops).1 := sync_run sgn hs0 hops
  have htk : (run cfg V sgn s0 ops).1.tempKey = tempKey :=
    run_rule (P := fun t => t.tempKey = tempKey) (fun _ _ _ _ hp e => (c05h_eff_tempKey e).trans hp) (load_reads hb).1
  obtain ⟨t, _, _, _, hl⟩ := c04h_restart_eq sgn fresh now hs
  rw [htk] at hl
  rw [hl]
  rfl

/-- Non-vacuity: register torn state on a fresh server. -/
example :
    let V : Verify := fun _ _ _ => true
    ((boot {} V (fun _ => []) (zeros 32) (zeros 32) 0).bind (fun s0 =>
      (loadCore {} V { s0.disk with gcaKey := some [] } s0.tempKey (zeros 32)).map (fun t =>
        (t.gcaAvail, (register V t (zeros 32) (zeros 64)).2)))) = some (false, .ok) := by decide +kernel

end Gca.Srv
