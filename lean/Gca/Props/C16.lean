import Gca.Client.Model
import Gca.Props.C20
/-
C16 - Energy readings become report values by fixed rules, for every file content.

The rule is stated over the records the CSV reader returns ("rows"), each with
the outcome of parsing its two columns. The floating-point part (|x| < 24,
multiplier*x/divider, truncation, two's complement) is IEEE/amd64 behaviour
that Lean cannot reason about: the scaled value is an input of the model
(`Reading.scaled v`) and the harness compares the real reader's values with
hardware doubles bit for bit (partial claim, see DESIGN.md section 10).
-/
namespace Gca.Cl

/-- The client's copy of the conversion is the specification's, so `TS.toSlot_eq` (Props/C20) speaks of it. -/
theorem toSlot_eq_TS (g t : Int) : toSlot g t = TS.toSlot g t := rfl

/-- One record per row that has both columns, a parseable timestamp at or after
genesis (and within the 32-bit slot range); its slot is the 5-minute slot
containing the timestamp; its value is 2 / 3 / the scaled reading. -/
theorem c16_rule (g : Int) (r : Row) (t : Int) (hn : 2 ≤ r.nfields) (ht : r.ts = some t)
    (hg : g ≤ t) (hmax : t < g + 300 * 4294967296) :
    ∃ slot, rowRecord g r = some ⟨slot, match r.reading with | .unparsable => 3 | .small => 2 | .scaled v => v⟩ ∧
      (slot : Int) = (t - g) / 300 ∧ g + 300 * (slot : Int) ≤ t ∧ t < g + 300 * (slot : Int) + 300 := by
  have e : (((t - g) / 300).toNat : Int) = (t - g) / 300 := Int.toNat_of_nonneg (Int.ediv_nonneg (by omega) (by decide))
  refine ⟨((t - g) / 300).toNat, ?_, e, ?_⟩
  · unfold rowRecord
    rw [if_neg (by omega), ht]
    simp only [toSlot_eq_TS, TS.toSlot_eq, if_pos (And.intro hg hmax)]
    cases r.reading <;> rfl
  · rw [e]; omega

/-- Rows with an unusable timestamp (unparseable, before genesis, beyond the
slot range) and rows without a reading column are skipped. -/
theorem c16_skipped (g : Int) (r : Row)
    (h : r.nfields < 2 ∨ r.ts = none ∨ (∃ t, r.ts = some t ∧ (t < g ∨ t ≥ g + 300 * 4294967296))) :
    rowRecord g r = none := by
  unfold rowRecord
  by_cases hn : r.nfields < 2
  · exact if_pos hn
  rw [if_neg hn]
  rcases h with h | h | ⟨t, ht, h⟩
  · exact absurd h hn
  · rw [h]
  · rw [ht]
    simp only [toSlot_eq_TS, TS.toSlot_eq, if_neg (show ¬ (g ≤ t ∧ t < g + 300 * 4294967296) by omega)]

/-- The reader is total: every list of rows yields a list of records, at most
one per row and in row order (no row shape can crash it - in the model a crash
would be a missing case). -/
theorem c16_total (g : Int) (rows : List Row) :
    (readEnergy g rows).length ≤ rows.length ∧
    readEnergy g rows = (rows.map (rowRecord g)).filterMap id := by
  refine ⟨List.length_filterMap_le _ _, ?_⟩
  rw [List.filterMap_map]
  rfl

/-- Rows are independent: the records of a concatenation are the concatenation of the records. -/
theorem c16_append (g : Int) (a b : List Row) : readEnergy g (a ++ b) = readEnergy g a ++ readEnergy g b := by
  unfold readEnergy
  exact List.filterMap_append

example : readEnergy 1000 [⟨2, none, .small⟩, ⟨2, some 1000, .small⟩, ⟨1, some 1300, .small⟩,
    ⟨2, some 1599, .unparsable⟩, ⟨2, some 999, .scaled 7⟩, ⟨2, some 1600, .scaled 77⟩]
    = [⟨0, 2⟩, ⟨1, 3⟩, ⟨2, 77⟩] := by decide

/-- The calibration file is read exactly as written: when both of its first two lines parse, the first is
the multiplier and the second the divider, whatever the build's defaults are and whatever follows. -/
theorem c16_calibration_as_written (m d : Nat) (dflt : Nat × Nat) :
    readCT true (some (some m)) (some (some d)) dflt = some (m, d) := by
  rfl

/-- No calibration file: the build's defaults, each in its own place (multiplier first), and never an error. -/
theorem c16_calibration_absent (l1 l2 : Option (Option Nat)) (dflt : Nat × Nat) :
    readCT false l1 l2 dflt = some dflt := by
  rfl

/-- A calibration file whose first or second line is missing or does not parse is an error (in the model a
crash would be a missing case), and it is the ONLY way the loader fails: the result is an error exactly
when the file is present and one of the two lines is missing or unparseable. -/
theorem c16_calibration_error_iff (present : Bool) (l1 l2 : Option (Option Nat)) (dflt : Nat × Nat) :
    readCT present l1 l2 dflt = none ↔
      present = true ∧ ¬ (∃ m d, l1 = some (some m) ∧ l2 = some (some d)) := by
  unfold readCT
  cases present <;> simp
  rcases l1 with _ | _ | m <;> rcases l2 with _ | _ | d <;> simp

/-- The defaults never leak into a present file's values, and a present file never changes with them. -/
theorem c16_calibration_defaults_irrelevant (l1 l2 : Option (Option Nat)) (a b : Nat × Nat) :
    readCT true l1 l2 a = readCT true l1 l2 b := by
  rfl

example : readCT false none none (7, 9) = some (7, 9) ∧ readCT true (some (some 1)) (some (some 2)) (7, 9) = some (1, 2)
    ∧ readCT true (some (some 1)) none (7, 9) = none ∧ readCT true (some none) (some (some 2)) (7, 9) = none := by decide

end Gca.Cl
