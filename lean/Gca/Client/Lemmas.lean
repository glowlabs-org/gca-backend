import Gca.Client.Model
/-
What the definitions of `Gca/Client/Model.lean` do, stated once for the property files: the bit field of
a sync reply, what an accepted reply satisfies, the history store as a function of the timeslot, the
resend rule, the server-list merge read through `get`, the attempts loop and the round around it.
-/
namespace Gca.Cl

/-- The value of a list of flags, as `packByte` sums it up, is core's `BitVec.ofBoolListLE`. -/
theorem sum_zipIdx_eq (l : List Bool) (k : Nat) :
    ((l.zipIdx k).map (fun (b, j) => if b then 2^j else 0)).sum = 2^k * (BitVec.ofBoolListLE l).toNat := by
  induction l generalizing k with
  | nil => rfl
  | cons b bs ih =>
    simp only [List.zipIdx_cons, List.map_cons, List.sum_cons, ih, BitVec.ofBoolListLE, BitVec.toNat_concat,
      Nat.pow_succ, Nat.mul_add, Nat.mul_assoc, Nat.mul_comm _ 2]
    cases b <;> simp [Nat.add_comm, Nat.mul_left_comm]

theorem packByte_testBit {l : List Bool} (hl : l.length ≤ 8) (j : Nat) :
    (packByte l).toNat.testBit j = l.getD j false := by
  have h : (BitVec.ofBoolListLE l).toNat < 2 ^ 8 :=
    Nat.lt_of_lt_of_le (BitVec.isLt _) (Nat.pow_le_pow_right (by decide) hl)
  unfold packByte
  rw [sum_zipIdx_eq l 0, Nat.one_mul, UInt8.toNat_ofNat', Nat.mod_eq_of_lt h]
  exact BitVec.getLsbD_ofBoolListLE

theorem packBits_length (n : Nat) (l : List Bool) : (packBits n l).length = n := by
  induction n generalizing l with
  | zero => rfl
  | succ n ih => simp [packBits, ih]

theorem packBits_getD {n : Nat} (l : List Bool) {k : Nat} (h : k < n) :
    (packBits n l).getD k 0 = packByte ((l.drop (8 * k)).take 8) := by
  induction n generalizing l k with
  | zero => omega
  | succ n ih =>
    cases k with
    | zero => rfl
    | succ k =>
      rw [packBits, List.getD_cons_succ, ih _ (by omega), List.drop_drop, show 8 + 8 * k = 8 * (k + 1) by omega]

/-- Bit `i` of the packed bitfield is flag `i` (the server packs, the client tests). -/
theorem bitSet_packBits {n : Nat} {l : List Bool} {i : Nat} (h : i < 8 * n) :
    bitSet (packBits n l) i = l.getD i false := by
  have hm : i % 8 < 8 := Nat.mod_lt _ (by decide)
  unfold bitSet
  rw [← Nat.testBit_eq_decide_div_mod_eq, packBits_getD l (by omega),
    packByte_testBit (by simp; omega)]
  simp only [List.getD_eq_getElem?_getD, List.getElem?_take, hm, if_true, List.getElem?_drop]
  rw [Nat.div_add_mod]

theorem parseReply_eq_some {V : Verify} {ck gk sk : Key} {now : Nat} {resp : Bytes} {p : Parsed} :
    parseReply V ck gk sk now resp = some p ↔
      712 ≤ resp.length ∧
      ¬ ((now + 86400) % 2^64 < unle ((resp.drop (resp.length - 72)).take 8) ∨
         (now + 2^64 - 86400) % 2^64 > unle ((resp.drop (resp.length - 72)).take 8)) ∧
      V sk (resp.take (resp.length - 64)) (resp.drop (resp.length - 64)) = true ∧
      resp.take 32 = ck ∧
      ((resp.drop 540).take 32 ≠ zeros 32 →
        V gk (migrationPrefix ++ (resp.take 32 ++ (resp.drop 540).take (resp.length - 136 - 540)))
          ((resp.drop (resp.length - 136)).take 64) = true) ∧
      ∃ servers,
        AuthServer.decodeList ((resp.drop 576).take (resp.length - 136 - 576)).length
          ((resp.drop 576).take (resp.length - 136 - 576)) = some servers ∧
        ((resp.drop 540).take 32 ≠ zeros 32 → servers ≠ []) ∧
        (∀ a ∈ servers, V (if (resp.drop 540).take 32 ≠ zeros 32 then (resp.drop 540).take 32 else gk)
          (AuthServer.signingBytes a) a.sig = true) ∧
        p = ⟨unle ((resp.drop 32).take 4), (resp.drop 36).take 504, (resp.drop 540).take 32,
          unle ((resp.drop 572).take 4), servers⟩ := by
  unfold parseReply
  -- The statement is the definition read guard by guard: `(if c then none else k) = some p` iff `¬ c ∧ k = some p`,
  -- which turns the chain of `if`s into the negated guards in the order of the code, down to the `match`.
  simp only [Option.ite_none_left_eq_some]
  -- The `match`: no decoded list, no result; with a list, the two guards inside it as before. The rest is
  -- propositional: `¬ n < 712` as `712 ≤ n`, `¬ (a ∧ !b)` as `a → b`, `¬ any (! ·)` as `∀`, `some _ = some p` as `p = _`.
  generalize AuthServer.decodeList _ _ = d
  cases d <;> simp [@eq_comm _ p]

theorem getD_writeSlot (l : List Nat) (i j v : Nat) :
    (writeSlot l i v).getD j 0 = if j = i then v else l.getD j 0 := by
  unfold writeSlot
  simp only [List.getD_eq_getElem?_getD]
  split
  · -- inside the file the write is a `set`: position `i` reads `v`, every other one as before
    rw [List.getElem?_set]; grind
  · -- past the end the new list is `l`, zeros up to `i`, then `v`, and `i + 1` long. Three cases for `j`: below `i`
    -- it reads `l` or one of the zeros, and a zero is what `l` reads there by default; at `i` it reads `v`; above
    -- `i` there is nothing, as in `l`. The goal is these cases as nested `if`s over `j < _`; `grind` splits them.
    simp only [List.getElem?_append, List.getElem?_replicate, List.length_append, List.length_replicate]
    grind

theorem Hist.load_in {h : Hist} {ts : Nat} (h1 : h.origin ≤ ts) (h2 : ts - h.origin < maxHistorySlots) :
    h.load ts = some (h.slots.getD (ts - h.origin) 0) := by
  unfold Hist.load
  rw [if_neg (by omega), if_neg (by omega)]

theorem Hist.load_write (h : Hist) (ts v ts' : Nat) (h1 : h.origin ≤ ts) (h2 : ts - h.origin < maxHistorySlots) :
    Hist.load { h with slots := writeSlot h.slots (ts - h.origin) v } ts' =
      if ts' = ts then some v else h.load ts' := by
  by_cases e : ts' = ts
  · rw [e, if_pos rfl]
    unfold Hist.load
    rw [if_neg (Nat.not_lt.2 h1), if_neg (Nat.not_le.2 h2), getD_writeSlot, if_pos rfl]
  · rw [if_neg e]
    unfold Hist.load
    dsimp only
    split
    · rfl
    split
    · rfl
    · rw [getD_writeSlot, if_neg (by omega)]

theorem Hist.save_spec {h h' : Hist} {ts v : Nat} (hs : h.save ts v = some h') :
    h.origin ≤ ts ∧ ts - h.origin < maxHistorySlots ∧ (h.load ts = some v ∨ h.load ts = some 0) ∧
    h'.origin = h.origin ∧ ∀ ts', h'.load ts' = if ts' = ts then some v else h.load ts' := by
  unfold Hist.save at hs
  by_cases h1 : ts < h.origin
  · rw [if_pos h1] at hs; cases hs
  by_cases h2 : ts - h.origin ≥ maxHistorySlots
  · rw [if_neg h1, if_pos h2] at hs; cases hs
  have hl := Hist.load_in (Nat.le_of_not_lt h1) (Nat.lt_of_not_le h2)
  rw [if_neg h1, if_neg h2, hl] at hs
  refine ⟨Nat.le_of_not_lt h1, Nat.lt_of_not_le h2, ?_⟩
  dsimp only at hs
  by_cases h3 : h.slots.getD (ts - h.origin) 0 = v
  · rw [if_pos h3] at hs; cases hs
    refine ⟨.inl (h3 ▸ hl), rfl, fun ts' => ?_⟩
    split
    · next e => rw [e, hl, h3]
    · rfl
  rw [if_neg h3] at hs
  by_cases h4 : h.slots.getD (ts - h.origin) 0 = 0
  · rw [if_neg (fun hn => hn h4)] at hs; cases hs
    exact ⟨.inr (h4 ▸ hl), rfl, fun ts' => h.load_write ts v ts' (Nat.le_of_not_lt h1) (Nat.lt_of_not_le h2)⟩
  · rw [if_pos h4] at hs; cases hs

theorem Hist.load_save {h h' : Hist} {ts v : Nat} (hs : h.save ts v = some h') : h'.load ts = some v := by
  obtain ⟨-, -, -, -, hload⟩ := Hist.save_spec hs
  exact (hload ts).trans (if_pos rfl)

theorem Hist.save_occupied {h h' : Hist} {ts v m : Nat} (hl : h.load ts = some m) (hm : m ≠ 0)
    (hs : h.save ts v = some h') : v = m := by
  obtain ⟨-, -, e | e, -⟩ := Hist.save_spec hs <;> rw [hl] at e <;> cases e
  · rfl
  · exact absurd rfl hm

theorem Hist.load_stable {h h' : Hist} {ts m : Nat} (hl : h.load ts = some m) (hm : m ≠ 0) {ts' v : Nat}
    (hs : h.save ts' v = some h') : h'.load ts = some m := by
  obtain ⟨-, -, -, -, hload⟩ := Hist.save_spec hs
  rw [hload ts]
  split
  · next e => subst e; rw [Hist.save_occupied hl hm hs]
  · exact hl

theorem mem_resend {h : Hist} {latest off : Nat} {bits : Bytes} {t v : Nat} (hl : latest < 2^32)
    (h1 : off ≤ t) (h2 : t ≤ latest) (hw : t - off < 4032) (hb : bitSet bits (t - off) = false)
    (hv : h.load t = some v) (h2v : 2 ≤ v) : ⟨t, signExt32 v⟩ ∈ resend h latest off bits := by
  have hlast : (latest + 2^32 - off) % 2^32 = latest - off := by
    rw [Nat.sub_add_comm (Nat.le_trans h1 h2), Nat.add_mod_right,
      Nat.mod_eq_of_lt (Nat.lt_of_le_of_lt (Nat.sub_le _ _) hl)]
  have hmod : (t - off + off) % 2^32 = t := by
    rw [Nat.sub_add_cancel h1, Nat.mod_eq_of_lt (Nat.lt_of_le_of_lt h2 hl)]
  unfold resend
  rw [List.mem_filterMap, hlast]
  refine ⟨t - off, List.mem_range.2 (Nat.lt_min.2 ⟨Nat.lt_succ_of_le (Nat.sub_le_sub_right h2 off), hw⟩), ?_⟩
  rw [hb, hmod, hv]
  exact if_neg (Nat.not_lt.2 h2v)

/-- A value that fits 32 signed bits (two's complement in 64 bits) is recovered from its low 32 bits
by sign extension: store the low 32 bits, sign-extend on the way back. -/
theorem signExt32_mod {e : Nat} (h : e < 2^31 ∨ (2^64 - 2^31 ≤ e ∧ e < 2^64)) :
    signExt32 (e % 2^32) = e := by
  unfold signExt32
  split <;> omega

theorem get_mergeStep (m : FMap Key CServer) (a : AuthServer) (k : Key) :
    (if !(m.has a.key) || a.banned then m.set a.key (toC a) else m).get k =
      if a.key = k ∧ (m.get k = none ∨ a.banned = true) then some (toC a) else m.get k := by
  by_cases hk : a.key = k
  · subst hk
    cases hg : m.get a.key <;> cases hb : a.banned <;> simp [FMap.has_eq_isSome, hg, FMap.get_set_same]
  · rw [if_neg (c := a.key = k ∧ _) fun h => hk h.1]
    split
    · exact FMap.get_set_ne hk
    · rfl

theorem get_mergeServers (m : FMap Key CServer) (l : List AuthServer) (k : Key) :
    (mergeServers m l).get k = m.get k ∨
    ∃ a ∈ l, a.key = k ∧ (m.get k = none ∨ a.banned = true) ∧ (mergeServers m l).get k = some (toC a) := by
  induction l generalizing m with
  | nil => exact .inl rfl
  | cons a as ih =>
    have hs := get_mergeStep m a k
    rcases ih _ with h | ⟨a', ha', hk, hw, h⟩
    · by_cases hc : a.key = k ∧ (m.get k = none ∨ a.banned = true)
      · exact .inr ⟨a, List.mem_cons_self, hc.1, hc.2, h.trans (hs.trans (if_pos hc))⟩
      · exact .inl (h.trans (hs.trans (if_neg hc)))
    · refine .inr ⟨a', List.mem_cons_of_mem _ ha', hk, hw.imp_left fun hn => ?_, h⟩
      rw [hs] at hn
      split at hn
      · cases hn
      · exact hn

theorem eligible_known {c : Client} {failed : List Key} {k : Key} (h : eligible c failed k = true) :
    ∃ s, c.servers.get k = some s ∧ s.banned = false := by
  unfold eligible at h
  cases hs : c.servers.get k with
  | none => rw [hs] at h; cases h
  | some s =>
    exact ⟨s, rfl, by cases hb : s.banned <;> simp_all⟩

/-- The attempts loop changes nothing but `primary`; it points `primary` only at servers that are known and not banned;
and a `synced` outcome names the server `primary` is left at. -/
theorem attempts_spec (c : Client) (n : Nat) (failed : List Key) (ch : List (Key × Attempt)) :
    (attempts c n failed ch).1 = { c with primary := (attempts c n failed ch).1.primary } ∧
    ((attempts c n failed ch).1.primary = c.primary ∨
      ∃ s, c.servers.get (attempts c n failed ch).1.primary = some s ∧ s.banned = false) ∧
    ∀ p k, (attempts c n failed ch).2 = .synced p k →
      (attempts c n failed ch).1.primary = k ∧ ∃ s, c.servers.get k = some s ∧ s.banned = false := by
  induction n generalizing c failed ch with
  | zero => exact ⟨rfl, .inl rfl, fun _ _ h => nomatch h⟩
  | succ n ih =>
    match ch with
    | [] => exact ⟨rfl, .inl rfl, fun _ _ h => nomatch h⟩
    | (k, a) :: rest =>
      unfold attempts
      by_cases h1 : (!(c.servers.any fun p => eligible c failed p.1)) = true
      · rw [if_pos h1]; exact ⟨rfl, .inl rfl, fun _ _ h => nomatch h⟩
      by_cases h2 : (!eligible c failed k) = true
      · rw [if_neg h1, if_pos h2]; exact ⟨rfl, .inl rfl, fun _ _ h => nomatch h⟩
      rw [if_neg h1, if_neg h2]
      have hk := eligible_known (by simpa using h2)
      match a with
      | .ok p => exact ⟨rfl, .inr hk, fun _ _ h => by cases h; exact ⟨rfl, hk⟩⟩
      | .fail =>
        obtain ⟨i1, i2, i3⟩ := ih { c with primary := k } (k :: failed) rest
        exact ⟨i1, .inr (i2.elim (fun e => e ▸ hk) id), i3⟩
theorem syncRound_cases (c : Client) (choices : List (Key × Attempt)) :
    (∃ p k, (attempts c 5 [] choices).2 = .synced p k ∧
      syncRound c choices = (adopt (attempts c 5 [] choices).1 p, .synced p k)) ∨
    ((∀ p k, (attempts c 5 [] choices).2 ≠ .synced p k) ∧ syncRound c choices = attempts c 5 [] choices) := by
  unfold syncRound
  generalize attempts c 5 [] choices = r
  obtain ⟨c', o⟩ := r
  cases o with
  | synced p k => exact Or.inl ⟨p, k, rfl, rfl⟩
  | gaveUp => exact Or.inr ⟨by simp, rfl⟩
  | noServers => exact Or.inr ⟨by simp, rfl⟩
  | badChoice => exact Or.inr ⟨by simp, rfl⟩

end Gca.Cl
