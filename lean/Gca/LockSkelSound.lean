import Gca.LockSkel
/-
Soundness of the lock-skeleton checker, once and for all programs.
-/
namespace Gca.Lock

/-- An outcome is accounted for by an abstract result. -/
def Good : Out → Res → Prop
  | .norm s, r => s ∈ r.norm
  | .brk s, r => s ∈ r.brk
  | .cont s, r => s ∈ r.cont
  | .done, _ => True
  | .bad, _ => False

/-- `b` accounts for every outcome that `a` accounts for. -/
def Res.le (a b : Res) : Prop := ∀ o, Good o a → Good o b

theorem Res.le_merge_left (a b : Res) : a.le (a.merge b) := by
  intro o h; cases o <;> simp_all [Good, Res.merge]

theorem Res.le_merge_right (a b : Res) : b.le (a.merge b) := by
  intro o h; cases o <;> simp_all [Good, Res.merge]

/-- The inner fold function of `flowP`. -/
def innerF (f : St → Option Res) (a : Option Res) (s1 : St) : Option Res :=
  match a, f s1 with
  | some a, some b => some (a.merge b)
  | _, _ => none

/-- The outer fold function of `flowP`. -/
def outerG (fuel : Nat) (acc : Option Res) (x : Stmt) : Option Res :=
  match acc with
  | none => none
  | some r =>
    match r.norm.foldl (innerF (flowS fuel x)) (some {}) with
    | none => none
    | some r' => some { norm := r'.norm, brk := r.brk ++ r'.brk, cont := r.cont ++ r'.cont }

theorem flowP_eq (fuel : Nat) (p : List Stmt) (s : St) :
    flowP fuel p s = p.foldl (outerG fuel) (some { norm := [s] }) := rfl

theorem flowS_ite (fuel : Nat) (a b : List Stmt) (s : St) :
    flowS (fuel+1) (.ite a b) s = (match flowP fuel a s, flowP fuel b s with
      | some ra, some rb => some (ra.merge rb)
      | _, _ => none) := rfl

theorem flowS_loop (fuel : Nat) (body : List Stmt) (s : St) :
    flowS (fuel+1) (.loop body) s = (match flowP fuel body s with
      | none => none
      | some r =>
        if r.norm.all (· = s) && r.cont.all (· = s) then some { norm := s :: r.brk } else none) := rfl

/-- Both folds of `flowP` give up for good once a step has failed. -/
theorem foldl_none {α β} {f : Option β → α → Option β} (hf : ∀ x, f none x = none) (l : List α) :
    l.foldl f none = none := by
  induction l with
  | nil => rfl
  | cons x xs ih => rw [List.foldl_cons, hf, ih]

theorem inner_some {f : St → Option Res} {l : List St} : ∀ (a r : Res),
    l.foldl (innerF f) (some a) = some r →
    a.le r ∧ ∀ s1, s1 ∈ l → ∃ b, f s1 = some b ∧ b.le r := by
  induction l with
  | nil =>
    intro a r h
    cases h
    exact ⟨fun _ h => h, by simp⟩
  | cons x xs ih =>
    intro a r h
    rw [List.foldl_cons] at h
    cases hf : f x with
    | none =>
      simp only [innerF, hf] at h
      rw [foldl_none fun _ => rfl] at h
      cases h
    | some b =>
      simp only [innerF, hf] at h
      obtain ⟨h1, h2⟩ := ih _ _ h
      refine ⟨fun o h => h1 o (Res.le_merge_left a b o h), ?_⟩
      exact List.forall_mem_cons.2 ⟨⟨b, hf, fun o h => h1 o (Res.le_merge_right a b o h)⟩, h2⟩

/-- Soundness of `flowS` at a given fuel. -/
def PS (fuel : Nat) : Prop :=
  ∀ x s r, flowS fuel x s = some r → ∀ o, RunS x s o → Good o r

/-- Block soundness, generalised over the accumulator of the outer fold. -/
theorem outer_sound {fuel : Nat} (hP : PS fuel) (xs : List Stmt) : ∀ (acc r : Res),
    xs.foldl (outerG fuel) (some acc) = some r →
    (∀ s, s ∈ acc.brk → s ∈ r.brk) ∧ (∀ s, s ∈ acc.cont → s ∈ r.cont) ∧
    ∀ s, s ∈ acc.norm → ∀ o, RunP xs s o → Good o r := by
  induction xs with
  | nil =>
    intro acc r h
    cases h
    exact ⟨fun _ h => h, fun _ h => h, fun s hs o hr => by cases hr; exact hs⟩
  | cons x xs ih =>
    intro acc r h
    rw [List.foldl_cons] at h
    cases hi : acc.norm.foldl (innerF (flowS fuel x)) (some {}) with
    | none =>
      simp only [outerG, hi] at h
      rw [foldl_none fun _ => rfl] at h
      cases h
    | some r' =>
      simp only [outerG, hi] at h
      obtain ⟨hb, hc, hn⟩ := ih _ _ h
      obtain ⟨_, hin⟩ := inner_some _ _ hi
      refine ⟨fun s hs => hb s (by simp [hs]), fun s hs => hc s (by simp [hs]), ?_⟩
      intro s hs o hr
      obtain ⟨b, hfb, hle⟩ := hin s hs
      have hx := hP x s b hfb
      cases hr with
      | step _ _ _ s' _ h1 h2 => exact hn s' (hle _ (hx _ h1)) o h2
      | stop _ _ _ _ h1 h2 =>
        -- the block ends in `x`: a `brk` / `cont` state of `x` is one of `r'`, which the fold has appended to `acc`'s
        have g := hle _ (hx _ h1)
        cases o with
        | norm s' => exact absurd rfl (h2 s')
        | brk s' => exact hb s' (List.mem_append_right _ g)
        | cont s' => exact hc s' (List.mem_append_right _ g)
        | done => trivial
        | bad => exact g

theorem flowP_sound_of {fuel : Nat} (hP : PS fuel) {p : List Stmt} {s : St} {r : Res}
    (h : flowP fuel p s = some r) {o : Out} (hr : RunP p s o) : Good o r := by
  rw [flowP_eq] at h
  exact (outer_sound hP p _ r h).2.2 s (by simp) o hr

/-- Loops: every iteration starts again in the entry state. -/
theorem loop_sound {body : List Stmt} {s : St} {r : Res}
    (hQ : ∀ o, RunP body s o → Good o r)
    (hn : ∀ s', s' ∈ r.norm → s' = s) (hc : ∀ s', s' ∈ r.cont → s' = s)
    {x : Stmt} {s0 : St} {o : Out} (h : RunS x s0 o) :
    x = .loop body → s0 = s → Good o { norm := s :: r.brk } := by
  apply RunS.rec
    (motive_1 := fun x s0 o _ => x = .loop body → s0 = s → Good o { norm := s :: r.brk })
    (motive_2 := fun _ _ _ _ => True) (t := h)
  case loop_skip => intro _ _ _ e; subst e; exact List.mem_cons_self
  case loop_brk =>
    intro _ _ s' hb _ e1 e2
    cases e1; subst e2
    exact List.mem_cons_of_mem _ (hQ _ hb)
  case loop_end =>
    intro _ _ o hb ho _ e1 e2
    cases e1; subst e2
    rcases ho with rfl | rfl
    · trivial
    · exact hQ _ hb
  case loop_next =>
    intro _ _ s' _ hb _ _ ih e1 e2
    cases e1; subst e2
    exact ih rfl (hn s' (hQ _ hb))
  case loop_cont =>
    intro _ _ s' _ hb _ _ ih e1 e2
    cases e1; subst e2
    exact ih rfl (hc s' (hQ _ hb))
  case nil | step | stop => intros; trivial
  -- the other seventeen rules of `RunS` run a statement that is not a loop: of the motive's two hypotheses, which
  -- come last, `e : x = .loop body` is absurd (`contradiction` would find it by itself, but is far slower here)
  all_goals (intros; rename_i e _; cases e)

theorem Good.single_norm {s : St} : Good (.norm s) { norm := [s] } := List.mem_singleton_self s

theorem PS_all (fuel : Nat) : PS fuel := by
  induction fuel with
  | zero =>
    intro x s r h
    simp [flowS] at h
  | succ n ih =>
    intro x s r h o hr
    cases x with
    | lock m | unlock m | access m | callLocking | callAssuming m =>
      -- each of these has two rules, `.._ok` and `.._bad`, whose side condition `hh` is the checker's test and its
      -- negation: under `.._bad` the checker has answered `none` and `h` is absurd, under `.._ok` `h` says what `r` is
      cases hr <;> rename_i hh <;> simp [flowS, hh] at h
      subst h; exact Good.single_norm
    | deferUnlock m =>
      cases hr
      simp [flowS] at h; subst h; exact Good.single_norm
    | ret =>
      cases hr
      simp only [flowS] at h
      split at h
      · rename_i e; rw [e]; trivial
      · cases h
    | exit => cases hr; trivial
    | ite a b =>
      rw [flowS_ite] at h
      split at h
      · rename_i ra rb ha hb
        cases h
        cases hr with
        | ite_l _ _ _ _ hp =>
          exact Res.le_merge_left _ _ _ (flowP_sound_of ih ha hp)
        | ite_r _ _ _ _ hp =>
          exact Res.le_merge_right _ _ _ (flowP_sound_of ih hb hp)
      · cases h
    | brk | cont => cases hr; simp [flowS] at h; subst h; exact List.mem_singleton_self s
    | loop body =>
      rw [flowS_loop] at h
      split at h
      · cases h
      · rename_i r0 hb
        split at h
        · rename_i hall
          cases h
          simp only [Bool.and_eq_true, List.all_eq_true, decide_eq_true_eq] at hall
          exact loop_sound (fun o ho => flowP_sound_of ih hb ho)
            hall.1 hall.2 hr rfl rfl
        · cases h

/-- If the abstract flow of a block succeeds, no concrete run of the block is
`bad`, and every concrete outcome is accounted for by the abstract result. -/
theorem flowP_sound {fuel : Nat} {p : List Stmt} {s : St} {r : Res} (h : flowP fuel p s = some r) {o : Out}
    (hr : RunP p s o) : Good o r :=
  flowP_sound_of (PS_all fuel) h hr

/-- Main theorem: a function body that passes `check` from the given entry
state never makes a locking mistake on any path, and every completed execution
ends `done` (returned with every mutex released, or the process exited). -/
theorem check_sound (p : Prog) (held : List String) (h : check p held = true) (o : Out)
    (hr : RunF p ⟨held, []⟩ o) : o = .done := by
  unfold check at h
  split at h
  · cases h
  · rename_i r hf
    simp only [Bool.and_eq_true, List.all_eq_true, decide_eq_true_eq, List.isEmpty_iff] at h
    obtain ⟨⟨hn, hb⟩, hc⟩ := h
    cases hr with
    | fall s' hp => exact hn s' (flowP_sound hf hp)
    | other _ hp hno =>
      have g := flowP_sound hf hp
      cases o with
      | norm s' => exact absurd rfl (hno s')
      | brk s' => rw [Good, hb] at g; cases g
      | cont s' => rw [Good, hc] at g; cases g
      | done => rfl
      | bad => exact g.elim

/-- A run of a block that does not fall through is also a run of any extension of the block. -/
theorem RunP_append_stop (q : List Stmt) : ∀ (p : List Stmt) (s : St) (o : Out),
    RunP p s o → (∀ s', o ≠ .norm s') → RunP (p ++ q) s o := by
  intro p
  induction p with
  | nil =>
    intro s o hr hno
    cases hr
    exact absurd rfl (hno s)
  | cons x xs ih =>
    intro s o hr hno
    cases hr with
    | step _ _ _ s' _ h1 h2 => exact RunP.step _ _ _ s' _ h1 (ih s' o h2 hno)
    | stop _ _ _ _ h1 h2 => exact RunP.stop _ _ _ _ h1 h2

/-- Helpers that are called with mutex `m` held (modelled as acquiring it on entry
and releasing it on return): no mistake on any path. -/
theorem checkAssuming_sound (p : Prog) (m : String) (h : checkAssuming p m = true) (o : Out)
    (hr : RunF (.lock m :: .deferUnlock m :: p) ⟨[], []⟩ o) : o = .done :=
  check_sound _ [] h o hr

/-- Non-vacuity: the checker rejects the two classic mistakes and accepts the correct shapes. -/
example : check [.lock "mu", .ite [.ret] [], .unlock "mu"] [] = false ∧          -- early return with the lock held
    check [.lock "mu", .ite [.unlock "mu", .ret] [], .unlock "mu"] [] = true ∧
    check [.lock "mu", .deferUnlock "mu", .ite [.ret] [], .access "mu"] [] = true ∧
    check [.lock "mu", .lock "other", .unlock "other", .unlock "mu"] [] = false ∧   -- nesting
    check [.loop [.lock "mu", .ite [.brk] [], .unlock "mu"]] [] = false ∧            -- break with the lock held
    check [.loop [.lock "mu", .ite [.unlock "mu", .cont] [], .unlock "mu"]] [] = true ∧
    check [.access "mu"] [] = false := by decide

end Gca.Lock
