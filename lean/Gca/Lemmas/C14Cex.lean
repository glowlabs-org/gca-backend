import Gca.Props.C14
/-
Why the closure statements of C14 speak of the states reachable from a first start and not of every state in sync:
`Sync` is silent about the records of a BANNED id in the report file, so a state in sync can hold a report that
verifies under no authorization on file. `cxS` is such a state: id 1 is banned, as the two conflicting records on
file say, their key is all zero, and the verifier `cxV` accepts the all-one key only. It is not reachable, but it
is in sync (`cx_sync`), and the statements quantified over all states in sync are false of it.
-/
namespace Gca.Srv

def cxOnes : Bytes := List.replicate 32 1
def cxV : Verify := fun k _ _ => decide (k = cxOnes)
def cxA1 : Auth := ⟨1, zeros 32, 0, 0, 1000, 0, 0, 0, 0, zeros 64⟩
def cxA2 : Auth := { cxA1 with debt := 7 }
def cxR : Report := ⟨1, 5, 500, zeros 64⟩
def cxS : State :=
  { gcaKey := cxOnes, gcaAvail := true, srvPub := zeros 32, bans := [1],
    disk := { srvKeys := some (zeros 32), gcaKey := some cxOnes, auths := [cxA1, cxA2], reports := [cxR] } }

theorem cx_sync : Sync {} cxV cxS := by
  have hr : cxS.disk.auths.foldl (replayAuth {}) (base cxS) = { cxS with recentA := [cxA1, cxA2] } := by decide +kernel
  refine ⟨?_, ⟨zeros 32, rfl, by decide, rfl⟩, ?_, ?_, ?_, nofun, nofun, nofun⟩
  · refine Inv.ofParts ⟨nofun, nofun, nofun, ?_, List.nodup_nil, List.nodup_nil⟩
      ⟨rfl, fun k hk => absurd hk (Nat.not_lt_zero k), rfl⟩ ⟨nofun, fun _ => ⟨rfl, by decide⟩⟩
    intro id _; rfl
  · simp only [hr, implies_true, and_self]
  · intro a _; rfl
  · intro r hr hb
    cases List.mem_singleton.mp hr
    exact absurd (by decide : cxR.id ∈ cxS.bans) hb

theorem cx_zero (m sg : Bytes) : cxV (zeros 32) m sg = false := by
  rfl

/-- The one report on the disk of `cxS` verifies under no authorization on that disk. -/
theorem cx_no_auth : ¬ ∃ a ∈ cxS.disk.auths, a.id = cxR.id ∧ cxV a.key (Report.signingBytes cxR) cxR.sig = true := by
  rintro ⟨a, ha, _, hv⟩
  have hk : a.key = zeros 32 := by
    have : a = cxA1 ∨ a = cxA2 := by simpa [cxS] using ha
    rcases this with e | e <;> rw [e] <;> rfl
  rw [hk, cx_zero] at hv
  cases hv

/-- The conclusion of `c14_report_has_auth`, asked of every state in sync instead of every reachable one, is false. -/
theorem cx_report_has_auth_false :
    ¬ (∀ (cfg : Cfg) (V : Verify) (s : State), Sync cfg V s → (∀ m sg, V (zeros 32) m sg = false) →
        ∀ r ∈ s.disk.reports, ∃ a ∈ s.disk.auths, a.id = r.id ∧ V a.key (Report.signingBytes r) r.sig = true) :=
  fun h => cx_no_auth (h {} cxV cxS cx_sync cx_zero cxR List.mem_cons_self)

/-- and so is the first clause of `c14_closed` (take `sa = sb = sc = se`, no operations). -/
theorem cx_closed_false :
    ¬ (∀ (cfg : Cfg) (V : Verify) (sgn : Bytes → Bytes) (sa sb sc se : State),
        Sync cfg V sa → Reach cfg V sgn sa sb → Reach cfg V sgn sb sc → Reach cfg V sgn sc se →
        (∀ m sg, V (zeros 32) m sg = false) →
        (∀ r ∈ sb.disk.reports, ∃ a ∈ sc.disk.auths, a.id = r.id ∧ V a.key (Report.signingBytes r) r.sig = true) ∧
        (∀ a ∈ sc.disk.auths, ∃ k, se.disk.gcaKey = some k ∧ V k (Auth.signingBytes a) a.sig = true) ∧
        (∃ x, se.disk.weeks = sa.disk.weeks ++ x)) := by
  intro h
  have hr : Reach {} cxV (fun _ => []) cxS cxS := ⟨[], nofun, rfl⟩
  exact cx_no_auth ((h {} cxV (fun _ => []) cxS cxS cxS cxS cx_sync hr hr hr cx_zero).1 cxR List.mem_cons_self)

#print axioms cx_report_has_auth_false
#print axioms cx_closed_false
end Gca.Srv
