import Gca.Generated.Tables
import Gca.Codec.Report
import Gca.Codec.Auth
import Gca.Codec.AuthServer
import Gca.Codec.Stats
/-
Obligations on the regenerated tables: constants, file order, signing
prefixes, key sources of every `glow.Verify` call, byte layouts of the
encoders/decoders, order facts (write-before-memory-update, limiter consulted
first, load order). Each is an equality between the text extracted from the
current source tree and the value the hand-written model assumes; all are
closed by `decide`/`rfl`, so a change of the source changes the left-hand side
and the obligation no longer type-checks.
-/
namespace Gca.Tie

/-! ### Signing prefixes (C15): the model's prefixes are the source's, and they are pairwise prefix-free -/

theorem prefix_report : Gen.prefixReport = [Report.prefixStr] := by rfl
theorem prefix_auth : Gen.prefixAuth = [Auth.prefixStr] := by rfl
theorem prefix_registration : Gen.prefixRegistration = [Registration.prefixStr] := by rfl
theorem prefix_authServer : Gen.prefixAuthServer = [AuthServer.prefixStr] := by rfl
theorem prefix_migration : Gen.prefixMigration = [Migration.prefixStr] := by rfl
/-- (the first literal is the text of a `panic`, the second is the prefix) -/
theorem prefix_stats : Gen.prefixStats = ["SigningBytes gone wrong", Week.prefixStr] := by rfl
/-- The client rebuilds the migration signing bytes with the same prefix. -/
theorem prefix_client_migration : Gen.clientSyncLiterals = [Migration.prefixStr] := by rfl

def allPrefixes : List String :=
  [Report.prefixStr, Auth.prefixStr, Registration.prefixStr, AuthServer.prefixStr,
   Migration.prefixStr, Week.prefixStr]

/-- `a` is a prefix of `b` as byte strings. -/
def isPrefix (a b : Bytes) : Bool := a.isPrefixOf b

/-- No signing prefix is a prefix of another one: signing bytes of different
message types can never coincide. -/
theorem prefixes_prefix_free :
    ∀ i j : Fin allPrefixes.length, i ≠ j →
      isPrefix (ascii allPrefixes[i]) (ascii allPrefixes[j]) = false := by decide +kernel

/-! ### Public files (C14): archived in reverse dependency order -/

theorem public_files : Gen.publicFiles =
    ["allDeviceStats.dat", "equipment-reports.dat", "equipment-authorizations.dat",
     "gcaPubKey.dat", "gcaTempPubKey.dat"] := by rfl

theorem archive_order : Gen.archiveHandlerOrder = ["Allow", "addFile", "addPubKeyFile", "addReadmeFile"] := by rfl

/-! ### Key sources (C01, C06, C07, C10, C17) -/

theorem verify_keys_server : Gen.verifyCalls_server =
    [("AuthorizedServersHandlerPOST", "gcaPubkey", "sb"),
     ("managedValidateMigration", "gcaPubkey", "sb"),
     ("managedValidateMigration", "em.NewGCA", "sb"),
     ("parseReport", "equipment.PublicKey", "sb"),
     ("registerGCA", "gcas.gcaTempKey", "sb"),
     ("verifyEquipmentAuthorization", "gcas.gcaPubkey", "signingBytes"),
     ("verifyGCAKey", "gcas.gcaTempKey", "signingBytes")] := by rfl

theorem verify_keys_client : Gen.verifyCalls_client =
    [("staticServerSync", "gcasKey", "respBuf[:respLen - 64]"),
     ("staticServerSync", "gcaKey", "newGCASigningBytes"),
     ("staticServerSync", "newGCA", "sb"),
     ("staticServerSync", "gcaKey", "sb")] := by rfl

/-! ### Byte layouts (C15) -/

theorem layout_report : Gen.layoutReportSerialize =
    ["bytes@0:4=er.ShortID", "bytes@4:4=er.Timeslot", "bytes@8:8=er.PowerOutput",
     "bytes@16:copy=er.Signature[:]"] := by rfl
theorem layout_report_signing : Gen.layoutReportSigning =
    ["bytes@?:copy=prefix", "bytes@15:4=er.ShortID", "bytes@19:4=er.Timeslot",
     "bytes@23:8=er.PowerOutput"] := by rfl
theorem layout_report_read : Gen.readsReportDeserialize =
    ["er.ShortID<-binary.LittleEndian.Uint32(i[0:4])", "er.Timeslot<-binary.LittleEndian.Uint32(i[4:8])",
     "er.PowerOutput<-binary.LittleEndian.Uint64(i[8:16])", "copy:er.Signature[:]<-i[16:80]"] := by rfl
theorem layout_parse_report : Gen.readsParseReport =
    ["report.ShortID<-binary.LittleEndian.Uint32(rawData[0:4])",
     "report.Timeslot<-binary.LittleEndian.Uint32(rawData[4:8])",
     "report.PowerOutput<-binary.LittleEndian.Uint64(rawData[8:16])",
     "copy:report.Signature[:]<-rawData[16:]", "sb<-report.SigningBytes()"] := by rfl
theorem layout_auth : Gen.layoutAuthSerialize =
    ["data@0:4=ea.ShortID", "data@4:copy=ea.PublicKey[:]", "data@36:8=math.Float64bits(ea.Latitude)",
     "data@44:8=math.Float64bits(ea.Longitude)", "data@52:8=ea.Capacity", "data@60:8=ea.Debt",
     "data@68:4=ea.Expiration", "data@72:4=ea.Initialization", "data@76:8=ea.ProtocolFee",
     "data@84:copy=ea.Signature[:]"] := by rfl
theorem layout_auth_read : Gen.readsAuthDeserialize =
    ["ea.ShortID<-binary.LittleEndian.Uint32(data[0:4])", "copy:ea.PublicKey[:]<-data[4:36]",
     "ea.Latitude<-math.Float64frombits(binary.LittleEndian.Uint64(data[36:44]))",
     "ea.Longitude<-math.Float64frombits(binary.LittleEndian.Uint64(data[44:52]))",
     "ea.Capacity<-binary.LittleEndian.Uint64(data[52:60])", "ea.Debt<-binary.LittleEndian.Uint64(data[60:68])",
     "ea.Expiration<-binary.LittleEndian.Uint32(data[68:72])",
     "ea.Initialization<-binary.LittleEndian.Uint32(data[72:76])",
     "ea.ProtocolFee<-binary.LittleEndian.Uint64(data[76:84])", "copy:ea.Signature[:]<-data[84:]"] := by rfl
theorem layout_auth_server : Gen.layoutAuthServerSerialize =
    ["data@0:copy=as.PublicKey[:]", "data@34:copy=[]byte(as.Location)",
     "data@34 + locationLength:2=as.HttpPort", "data@36 + locationLength:2=as.TcpPort",
     "data@38 + locationLength:2=as.UdpPort", "data@40 + locationLength:copy=as.GCAAuthorization[:]"] := by rfl
theorem layout_migration : Gen.layoutMigrationSerialize =
    ["result@?:copy=em.Equipment[:]", "result@32:copy=em.NewGCA[:]", "result@64:4=em.NewShortID"] := by rfl
theorem layout_registration : Gen.layoutRegistrationSigning =
    ["data@0:copy=prefixBytes", "data@len(prefixBytes):copy=gr.GCAKey[:]"] := by rfl

/-! ### Order facts (C03, C05, C04) -/

/-- Rotation: statistics are built and appended to the file before memory is shifted. -/
theorem migrate_order : Gen.migrateReportsOrder =
    ["buildDeviceStats", "saveAllDeviceStats", "copy", "copy", "copy", "copy",
     "=gcas.equipmentReportsOffset"] := by rfl
/-- Rotation: every literal in the body is 2016 (slice bounds, blank lengths, offset step). -/
theorem migrate_ints : Gen.migrateReportsInts = List.replicate 9 "2016" := by rfl
/-- Authorization: the file write precedes every memory update. -/
theorem save_equipment_order : Gen.saveEquipmentOrder =
    ["Write", "addRecentEquipmentAuth", "=gcas.equipment[ea.ShortID]", "=gcas.equipmentBans[ea.ShortID]"] := by rfl
/-- The three append-only logs are written with exactly one `Write` call per record (and the file is
used for nothing else but the deferred `Close`): a record is never visible half-written to a concurrent
reader of the archive, and a process crash leaves whole records only. -/
theorem single_write_per_record :
    Gen.fileUsesSaveReport = ["file.Close", "file.Write"] ∧
    Gen.fileUsesSaveEquipment = ["file.Close", "file.Write"] ∧
    Gen.fileUsesSaveStats = ["file.Close", "file.Write"] := ⟨rfl, rfl, rfl⟩
/-- The server's own key file (public key followed by private key, 96 bytes) is written with exactly one
`Write` call, outside any loop, and then closed: a process killed while the file is being created leaves it
empty or whole, never a public key without its private key. -/
theorem single_write_key_file : Gen.fileUsesServerKeys = ["file.Write", "file.Close"] := by rfl
/-- The calibration loader (production build) assigns each default to its own field when the file is absent,
and the first parsed line to the multiplier and the second to the divider otherwise; nothing else writes a
field of the client there. -/
theorem calibration_assignments : Gen.ctSettingsAssigns =
    ["c.energyMultiplier=EnergyMultiplierDefault", "c.energyDivider=EnergyDividerDefault",
     "c.energyMultiplier=mult", "c.energyDivider=div"] := by rfl
/-- The client's history store reads and writes at explicit offsets only: the reporting loop and every
running sync round share one file handle, and positional I/O is what keeps them from moving each other's
file position. -/
theorem history_positional_io :
    Gen.historyUsesLoad = ["file.ReadAt"] ∧ Gen.historyUsesSave = ["file.WriteAt"] := ⟨rfl, rfl⟩
/-- The sync reply is read with `io.ReadFull` (length prefix, then the body): a reply that arrives in several
TCP segments is still read whole. -/
theorem sync_reply_read_full :
    Gen.syncConnUses = ["conn.Close", "conn.Write", "arg:ReadFull", "arg:ReadFull"] := by rfl
/-- Registration: the file write precedes adopting the key. -/
theorem save_gca_key_order : Gen.saveGCAKeyOrder =
    ["WriteFile", "=server.gcaPubkey", "=server.gcaPubkeyAvailable"] := by rfl
/-- Start-up: keys, temp key, GCA key, equipment, history (sets the offset),
reports; listeners only afterwards, catch-up rotation after the UDP listener. -/
theorem startup_order : Gen.startupOrder =
    ["loadGCAServerKeys", "loadGCATempKey", "loadGCAPubkey", "loadEquipment", "loadEquipmentHistory",
     "loadEquipmentReports", "launchUDPServer", "launchMigrateReports", "launchListenForSyncRequests",
     "launchAPI"] := by rfl

/-! ### Constants (C20 and others) -/

theorem genesis_prod : Gen.ProdGlow.GenesisTime = 1700352000 := by decide
theorem report_size : Gen.ProdServer.equipmentReportSize = 80 ∧ Gen.TestServer.equipmentReportSize = 80 := by decide
theorem capacity_buffer : Gen.ProdServer.MaxCapacityBuffer = 135 ∧ Gen.TestServer.MaxCapacityBuffer = 135 := by decide
/-- Production rotation check period: one hour = 12 timeslots. -/
theorem migration_period_prod : Gen.ProdServer.ReportMigrationFrequency = 12 * (300 * 1000000000) := by decide
/-- Production reporting period (270 s) plus the largest random extension (4 s) is below one slot. -/
theorem send_period_prod : Gen.ProdClient.sendReportTime + 4000 * 1000000 < 300 * 1000000000 := by decide
/-- Calibration defaults of the production build (used when no calibration file exists): multiplier -2000,
divider 1000 - in particular the default divider is not zero and the two differ, which the test build
(1000/1000) cannot show. -/
theorem calibration_defaults_prod :
    Gen.ProdClient.EnergyMultiplierDefault = -2000 ∧ Gen.ProdClient.EnergyDividerDefault = 1000 := by decide
theorem archive_limit : Gen.ProdServer.apiArchiveLimit = 3 ∧ Gen.ProdServer.apiArchiveRate = 3 * 1000000000 := by decide
theorem history_slots : Gen.ProdClient.maxHistorySlots = 2^30 - 1 ∧ Gen.TestClient.maxHistorySlots = 2^30 - 1 := by decide

end Gca.Tie
