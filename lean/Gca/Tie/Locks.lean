import Gca.Generated.Locks
import Gca.LockSkelSound
/-
Obligations on the regenerated lock skeletons (C11, C13, C07, C19): every
function of server, client and glow passes the verified checker
(`Gca.Lock.check_sound`): on every control-flow path every lock is released,
no two mutexes are ever held together, guarded fields of the server, the event
logger and the rate limiter are touched only under their mutex, functions that
lock are never called with a lock held and helpers that assume the lock are only
called with it. Evaluated by the kernel.
-/
namespace Gca.Tie
open Gca.Lock

/-- Entry points, handlers, background loops and goroutine bodies: start with nothing held. -/
theorem locks_entries_ok : Gen.Locks.entries.all (fun p => check p.2 []) = true := by decide +kernel

/-- Helpers that assume their object's mutex: correct when entered with it held. -/
theorem locks_assuming_ok : Gen.Locks.assuming.all (fun p => checkAssuming p.2.2 p.2.1) = true := by
  decide +kernel

/-- Construction-time loaders: checked as if the object's mutex were held (no other thread exists). -/
theorem locks_ctors_ok : Gen.Locks.ctors.all (fun p => checkAssuming p.2 "mu") = true := by decide +kernel

/-- The construction-time loaders are called only from the constructors (and the
key loader, which touches no guarded state, from the archive handler). -/
theorem locks_ctor_callers : Gen.Locks.ctorCallers.all (fun p =>
    p.2 == "server.NewGCAServer" || p.2 == "client.NewClient" ||
    (p.1 == "server.GCAServer.loadGCAServerKeys" && p.2 == "server.GCAServer.addPubKeyFile")) = true := by
  decide +kernel

mutual
/-- No statement of the program takes, releases or defers the release of any mutex. -/
def stmtNoLockOps : Stmt → Bool
  | .lock _ | .unlock _ | .deferUnlock _ => false
  | .ite a b => progNoLockOps a && progNoLockOps b
  | .loop b => progNoLockOps b
  | _ => true
def progNoLockOps : List Stmt → Bool
  | [] => true
  | s :: r => stmtNoLockOps s && progNoLockOps r
end

/-- A function whose whole body is one critical section: lock, deferred unlock, then only code under
the lock - nothing after the first two statements touches a mutex again. -/
def singleSection : Prog → Bool
  | .lock m :: .deferUnlock m' :: rest => m == m' && progNoLockOps rest
  | _ => false

/-- Helpers that run under their caller's lock never release or re-take it (README: a mutex is locked and
unlocked in the same function): an operation built from them stays ONE critical section. This is what
makes the week rotation (`migrateReports`: archive, shift, advance the offset), `saveEquipment`,
`integrateReport` and the loaders atomic with respect to every other operation. -/
theorem locks_assuming_keep : Gen.Locks.assuming.all (fun p => progNoLockOps p.2.2) = true := by decide +kernel

theorem locks_ctors_keep : Gen.Locks.ctors.all (fun p => progNoLockOps p.2) = true := by decide +kernel

/-- A lock-free prelude, then exactly one critical section that lasts to the end of the function. -/
def lockedTail : Prog → Bool
  | [] => false
  | .lock m :: rest =>
    match rest.getLast? with
    | some (.unlock m') => m == m' && progNoLockOps rest.dropLast
    | _ => false
  | s :: rest => stmtNoLockOps s && lockedTail rest

/-- The week rotation `migrateReports` fetches the week's impact data first (its own short sections, through
a function that locks for itself) and then archives, persists, shifts and advances the offset in ONE
critical section: no report or query can run between the archive and the shift. -/
theorem rotation_single_section : lockedTail Gen.Locks.u_server_GCAServer_migrateReports = true := by decide

/-- Fields of the lock-protected objects that no mutex guards are configuration: the only methods that
assign to one are the three listener launchers, which `NewGCAServer` calls before it returns the server
(the port each listener was given). Anything else - a lazily created limiter, a cached value - would be an
unsynchronised write on a running server. -/
theorem unguarded_writes_only_at_start : Gen.Locks.unguardedWrites =
    ["server.GCAServer.launchAPI:httpPort", "server.GCAServer.launchListenForSyncRequests:tcpPort",
     "server.GCAServer.launchUDPServer:udpPort"] := by rfl

/-- README naming discipline: a method called `static*` works on what never changes after construction, so
it may run without any lock next to anything else (the history store is read by the reporting loop and by
every running sync round at once). The only other fields such methods mention are the event logger (which
locks for itself), the two calibration values (set once while the client is built) and `shortID`, which
`staticSendReport`/`staticServerSync` read without the mutex while a migration may write it - a known,
benign exception that is pinned here so that no further one appears (a shared scratch buffer, a cache). -/
theorem static_methods_use_static_fields : Gen.Locks.staticFieldUses =
    ["client.Client.staticReadEnergyFile:EventLog", "client.Client.staticReadEnergyFile:energyDivider",
     "client.Client.staticReadEnergyFile:energyMultiplier", "client.Client.staticSendReport:EventLog",
     "client.Client.staticSendReport:shortID", "client.Client.staticServerSync:shortID"] := by rfl

/-- `RateLimiter.Allow` (clock read included), `registerGCA`, the datagram handler and
`managedAuthorizeEquipment` are single critical sections: concurrent calls are sequences. -/
theorem single_sections :
    singleSection Gen.Locks.u_glow_RateLimiter_Allow = true ∧
    singleSection Gen.Locks.u_server_GCAServer_registerGCA = true ∧
    singleSection Gen.Locks.u_server_GCAServer_managedHandleEquipmentReport = true ∧
    singleSection Gen.Locks.u_server_GCAServer_managedAuthorizeEquipment = true ∧
    singleSection Gen.Locks.u_server_GCAServer_getRecentReportsWithSignature = true := by decide

/-- No method takes a value receiver whose type holds a mutex (it would lock a copy of the mutex - born locked if
the original happened to be held - and protect nothing). -/
theorem no_lock_copying_receivers : Gen.Locks.lockCopyingReceivers = [] := by rfl

/-- No goroutine launched inside a loop is handed a slice, map, pointer, array or channel that was declared
outside the loop, or an alias of one: each datagram (each connection, each request) has its own buffer, which the
next iteration of the loop cannot overwrite while the handler still waits for the mutex. -/
theorem no_loop_shared_captures : Gen.Locks.loopSharedCaptures = [] := by rfl

end Gca.Tie
