import Gca.Generated.Guards
import Gca.Timeslot
import Gca.Client.Model
/-
Obligations `generated = specification` for the integer guards, conversions
and index computations that the extractor transcribes from the Go source
(`Gca/Generated/Guards.lean`, regenerated on every run). Each theorem
quantifies over ALL values of the machine integers involved; hypotheses that
exclude wrap-around are stated explicitly where the Go arithmetic needs them.
The right-hand sides are of two kinds. Four name a definition: `Cl.shouldSync` is the client model's own;
`TS.toSlot`, `TS.toUnix`, `TS.inWindow` are the specification's (`Gca/Timeslot.lean`), and the models do not
mention them: the client model has its own copy of `toSlot` (`Cl.toSlot_eq_TS` is `rfl`), the server model
writes the window test out in `Srv.dgram` (`ts < now - 432 ∨ ts > now + 432`). All others are comparisons
and values over `toNat` / `toInt` written out here; the model (`Srv.integrateDev`, `Srv.overCapacity`,
`Cl.Hist.save`, `Cl.resend`, `RL.allow`, `EL.printf`, ...) has the same tests in its own text, sometimes split
differently (`Tie.storage` is one conjunction, `integrateDev` makes two tests). That an obligation's
right-hand side and the model's text say the same is seen by reading them side by side; a theorem states it in two
places only: `Srv.c02_overcap_meaning` (the right-hand side of `Tie.capacity` is `overCapacity`) and `Cl.toSlot_eq_TS`.
-/
namespace Gca.Tie

/-! ### When machine arithmetic is integer arithmetic

The guards compute in `int64` / `uintN`, the rules are stated over `Int` / `Nat`. Each lemma says that one
machine operation IS the integer operation provided the result fits; the unsigned counterparts are core's
`BitVec.toNat_add_of_lt`, `toNat_sub_of_le`, `toNat_mul_of_lt`, `toNat_setWidth_of_le`. An obligation
unfolds the generated text, rewrites each operation with the reason it does not wrap, and compares. -/

theorem bmod64 {n : Int} (h : n.natAbs < 2^63) : n.bmod (2^64) = n :=
  Int.bmod_eq_of_le (by omega) (by omega)

theorem toInt_add {a b : BitVec 64} (h : (a.toInt + b.toInt).natAbs < 2^63) :
    (a + b).toInt = a.toInt + b.toInt := by rw [BitVec.toInt_add, bmod64 h]

theorem toInt_sub {a b : BitVec 64} (h : (a.toInt - b.toInt).natAbs < 2^63) :
    (a - b).toInt = a.toInt - b.toInt := by rw [BitVec.toInt_sub, bmod64 h]

theorem toInt_mul {a b : BitVec 64} (h : (a.toInt * b.toInt).natAbs < 2^63) :
    (a * b).toInt = a.toInt * b.toInt := by rw [BitVec.toInt_mul, bmod64 h]

theorem toInt_of_lt {a : BitVec 64} (h : a.toNat < 2^63) : a.toInt = a.toNat :=
  BitVec.toInt_eq_toNat_of_lt (by omega)

/-- `int64(x)` of a `uint32`. -/
theorem toInt_zext (x : BitVec 32) : (x.setWidth 64).toInt = x.toNat := by
  have e : (x.setWidth 64).toNat = x.toNat := BitVec.toNat_setWidth_of_le (by decide)
  rw [toInt_of_lt (by omega), e]

theorem zext16_toNat (x : BitVec 16) : (BitVec.setWidth 64 x).toNat = x.toNat :=
  BitVec.toNat_setWidth_of_le (by decide)

theorem msb64_false {a : BitVec 64} (h : a.toNat < 2^63) : a.msb = false :=
  BitVec.msb_eq_false_iff_two_mul_lt.mpr (by omega)

/-- Signed division of two non-negative int64 values is `Nat` division. -/
theorem sdiv64_nonneg (a b : BitVec 64) (ha : a.toNat < 2^63) (hb : b.toNat < 2^63) :
    (BitVec.sdiv a b).toNat = a.toNat / b.toNat := by
  rw [BitVec.sdiv_eq, msb64_false ha, msb64_false hb]
  exact BitVec.toNat_udiv

/-- Signed remainder of two non-negative int64 values is `Nat` remainder. -/
theorem srem64_nonneg (a b : BitVec 64) (ha : a.toNat < 2^63) (hb : b.toNat < 2^63) :
    (BitVec.srem a b).toNat = a.toNat % b.toNat := by
  rw [BitVec.srem_eq, msb64_false ha, msb64_false hb]
  exact BitVec.toNat_umod

theorem beq_toNat {w} {a b : BitVec w} : (a == b) = decide (a.toNat = b.toNat) := by
  rw [Bool.eq_iff_iff, beq_iff_eq, decide_eq_true_eq, BitVec.toNat_inj]

theorem bne_toNat {w} {a b : BitVec w} : (a != b) = decide (a.toNat ≠ b.toNat) := by
  rw [bne, beq_toNat, decide_not]

/-- What is left once every operation is an integer operation: unfold the comparisons (they are `decide`s of
`toNat` / `toInt` comparisons), evaluate the literals, read the Boolean structure as a proposition, `omega`. -/
macro "bv_arith" : tactic => `(tactic| (
  rw [Bool.eq_iff_iff]
  simp only [BitVec.slt, BitVec.sle, BitVec.ult, BitVec.ule, beq_toNat, bne_toNat, beq_iff_eq (α := Nat), BitVec.reduceToNat, BitVec.reduceToInt,
    Bool.or_eq_true, Bool.and_eq_true, Bool.not_eq_true', decide_eq_true_eq, decide_eq_false_iff_not]
  omega))

theorem and_two_pow_eq_zero (a k : Nat) : (a &&& 2^k = 0) ↔ a / 2^k % 2 = 0 := by
  have hpos : 0 < 2^k := Nat.two_pow_pos k
  have h1 : (a &&& 2^k) / 2^k = a / 2^k % 2 := by
    rw [Nat.and_div_two_pow, Nat.div_self hpos, Nat.and_one_is_mod]
  have h2 : (a &&& 2^k) % 2^k = 0 := by
    rw [Nat.and_mod_two_pow, Nat.mod_self, Nat.and_zero]
  have h3 := Nat.div_add_mod (a &&& 2^k) (2^k)
  constructor
  · intro h; rw [h] at h1; simpa using h1.symm
  · intro h; rw [h] at h1; rw [h1, h2] at h3; simpa using h3.symm

/-! ### C20 / C01: acceptance window, timeslot conversions -/

/-- The slot computation shared by `UnixToTimeslot` and `CurrentTimeslot`: from genesis on the quotient `q` is
exact and not negative. -/
theorem slot_sdiv (t q : BitVec 64) (h : ¬ t.toInt < 1700352000)
    (hq : q = BitVec.sdiv (t - 1700352000#64) (300#64)) :
    q.toInt = q.toNat ∧ (q.toNat : Int) = (t.toInt - 1700352000) / 300 := by
  have tp := BitVec.toInt_pos_iff.1 (Int.le_trans (by decide) (Int.not_lt.1 h))
  have tl : t.toNat < 2^63 := by omega
  have te := toInt_of_lt tl
  have hle : 1700352000 ≤ t.toNat := Int.ofNat_le.1 (te ▸ Int.not_lt.1 h)
  have hs : (t - 1700352000#64).toNat = t.toNat - 1700352000 := BitVec.toNat_sub_of_le hle
  have hl : t.toNat - 1700352000 < 2^63 := Nat.lt_of_le_of_lt (Nat.sub_le _ _) tl
  have hn : q.toNat = (t.toNat - 1700352000) / 300 := by
    rw [hq, sdiv64_nonneg _ _ (by rw [hs]; exact hl) (by decide), hs]; rfl
  refine ⟨toInt_of_lt (by rw [hn]; exact Nat.lt_of_le_of_lt (Nat.div_le_self _ _) hl), ?_⟩
  rw [hn, te, Int.natCast_ediv, Int.natCast_sub hle]; rfl

/-- `UnixToTimeslot`: for every int64 time the Go function returns an error
exactly when the specification refuses, and otherwise the same slot. -/
theorem unixToTimeslot (t : BitVec 64) :
    (if Gen.UnixToTimeslot.c0 t || Gen.UnixToTimeslot.c1 t then none
     else some (Gen.UnixToTimeslot.ret2_0 t).toNat) = TS.toSlot 1700352000 t.toInt := by
  unfold Gen.UnixToTimeslot.c0 Gen.UnixToTimeslot.c1 Gen.UnixToTimeslot.ret2_0 TS.toSlot
  by_cases h : t.toInt < 1700352000
  · simp [BitVec.slt, h]
  · obtain ⟨hi, hd⟩ := slot_sdiv t _ h rfl
    -- the specification's quotient is the machine's: what is left compares one natural number with 2^32 - 1
    rw [BitVec.slt, BitVec.slt, hi, BitVec.toNat_setWidth, ← hd, if_neg h]
    simp only [BitVec.reduceToInt, h, decide_false, Bool.false_or, decide_eq_true_eq, gt_iff_lt, Int.toNat_natCast]
    split
    · rfl
    · rw [Nat.mod_eq_of_lt (by omega)]

/-- `TimeslotToUnix` for every uint32 timeslot (no wrap-around). -/
theorem timeslotToUnix (s : BitVec 32) :
    (Gen.TimeslotToUnix.ret0_0 s).toInt = TS.toUnix 1700352000 s.toNat := by
  unfold Gen.TimeslotToUnix.ret0_0 TS.toUnix
  have hm : (BitVec.setWidth 64 s * 300#64).toInt = s.toNat * 300 := by
    rw [toInt_mul (by rw [toInt_zext]; simp only [BitVec.reduceToInt]; omega), toInt_zext]; rfl
  rw [toInt_add (by rw [hm]; simp only [BitVec.reduceToInt]; omega), hm]; rfl

/-- Production `CurrentTimeslot`: panics exactly before genesis ... -/
theorem currentTimeslot_guard (t : BitVec 64) :
    Gen.CurrentTimeslot.c0 t = decide (t.toInt < 1700352000) := by rfl

/-- ... and otherwise is the specification's slot of the system clock (as long
as the slot fits 32 bits, i.e. for the next ~40 000 years). -/
theorem currentTimeslot_value (t : BitVec 64) (s : Nat)
    (h : TS.toSlot 1700352000 t.toInt = some s) :
    (Gen.CurrentTimeslot.ret0_0 t).toNat = s := by
  unfold Gen.CurrentTimeslot.ret0_0
  unfold TS.toSlot at h
  by_cases h0 : t.toInt < 1700352000
  · rw [if_pos h0] at h; cases h
  · rw [if_neg h0, ← (slot_sdiv t _ h0 rfl).2] at h
    dsimp only at h
    split at h <;> cases h
    rw [BitVec.toNat_setWidth, Int.toNat_natCast, Nat.mod_eq_of_lt (by omega)]

theorem inWindow_decide (a b : Int) :
    decide (TS.inWindow a b) = decide (b - 432 ≤ a ∧ a ≤ b + 432) :=
  decide_eq_decide.mpr (by unfold TS.inWindow; exact Iff.rfl)

/-- The acceptance-window test of the report listener rejects exactly the
timeslots more than 432 away from `now`, for every pair of 32-bit values. -/
theorem window (now ts : BitVec 32) (p : BitVec 64) :
    Gen.HandleReport.c0 now p ts = !decide (TS.inWindow ts.toNat now.toNat) := by
  unfold Gen.HandleReport.c0
  have hs : (BitVec.setWidth 64 now - 432#64).toInt = now.toNat - 432 := by
    rw [toInt_sub (by rw [toInt_zext]; simp only [BitVec.reduceToInt]; omega), toInt_zext]; rfl
  have ha : (BitVec.setWidth 64 now + 432#64).toInt = now.toNat + 432 := by
    rw [toInt_add (by rw [toInt_zext]; simp only [BitVec.reduceToInt]; omega), toInt_zext]; rfl
  rw [BitVec.slt, BitVec.slt, hs, ha, toInt_zext, inWindow_decide]
  bv_arith

/-- The sentinel test rejects exactly power 0 and 1. -/
theorem sentinel (now ts : BitVec 32) (p : BitVec 64) :
    Gen.HandleReport.c1 now p ts = decide (p.toNat = 0 ∨ p.toNat = 1) := by
  unfold Gen.HandleReport.c1
  rw [beq_toNat, beq_toNat, ← Bool.decide_or]; rfl

theorem handleReport_kinds : Gen.HandleReport.condKinds = ["if-exit", "if-exit"] := by rfl

/-! ### C01 / C12: storage-window guards and the array index of `integrateReport` -/

/-- Too-old / too-new guards: a report is integrated only for
`off ≤ ts < off + 4032` (no wrap-around of `off + 4032`). -/
theorem storage (cap nRecent p slotP : BitVec 64) (slotEq : Bool) (off ts : BitVec 32)
    (hoff : off.toNat + 4032 < 2^32) :
    (Gen.Integrate.c0 cap nRecent off p slotEq slotP ts || Gen.Integrate.c1 cap nRecent off p slotEq slotP ts)
      = !decide (off.toNat ≤ ts.toNat ∧ ts.toNat < off.toNat + 4032) := by
  unfold Gen.Integrate.c0 Gen.Integrate.c1
  rw [BitVec.ule, BitVec.toNat_add_of_lt hoff]
  bv_arith

/-- The slot index is `ts - off`, hence below 4032 whenever the guards pass. -/
theorem storage_index (cap nRecent p slotP : BitVec 64) (slotEq : Bool) (off ts : BitVec 32)
    (h : off.toNat ≤ ts.toNat) :
    (Gen.Integrate.index0 cap nRecent off p slotEq slotP ts).toNat = ts.toNat - off.toNat :=
  BitVec.toNat_sub_of_le h

theorem integrate_kinds : Gen.Integrate.condKinds =
    ["if-exit", "if-exit", "if-exit", "if-exit", "if", "if", "if", "if"] := by rfl

/-! ### C02: the three slot tests (banned → ignore, identical → ignore, empty → store else ban) -/

theorem slot_banned (cap nRecent p slotP : BitVec 64) (slotEq : Bool) (off ts : BitVec 32) :
    Gen.Integrate.c2 cap nRecent off p slotEq slotP ts = decide (slotP.toNat = 1) :=
  beq_toNat
theorem slot_duplicate (cap nRecent p slotP : BitVec 64) (slotEq : Bool) (off ts : BitVec 32) :
    Gen.Integrate.c3 cap nRecent off p slotEq slotP ts = slotEq := by
  rfl
theorem slot_empty (cap nRecent p slotP : BitVec 64) (slotEq : Bool) (off ts : BitVec 32) :
    Gen.Integrate.c4 cap nRecent off p slotEq slotP ts = decide (slotP.toNat = 0) :=
  beq_toNat

/-! ### C02: capacity rule, for every 64-bit power and capacity (no overflow anywhere) -/

/-- `bits.Mul64`: the 128-bit product of two 64-bit values is exact ... -/
theorem mul128 (a b : BitVec 64) :
    (BitVec.setWidth 128 a * BitVec.setWidth 128 b).toNat = a.toNat * b.toNat := by
  have ea : (BitVec.setWidth 128 a).toNat = a.toNat := BitVec.toNat_setWidth_of_le (by decide)
  have eb : (BitVec.setWidth 128 b).toNat = b.toNat := BitVec.toNat_setWidth_of_le (by decide)
  have h : a.toNat * b.toNat < 2^64 * 2^64 := Nat.mul_lt_mul'' a.isLt b.isLt
  rw [BitVec.toNat_mul_of_lt (by rw [ea, eb]; exact h), ea, eb]

theorem mul64_hi (a b : BitVec 64) :
    (BitVec.setWidth 64 ((BitVec.setWidth 128 a * BitVec.setWidth 128 b) >>> 64)).toNat = a.toNat * b.toNat / 2^64 := by
  have h : a.toNat * b.toNat < 2^64 * 2^64 := Nat.mul_lt_mul'' a.isLt b.isLt
  rw [BitVec.toNat_setWidth, BitVec.toNat_ushiftRight, mul128, Nat.shiftRight_eq_div_pow]
  omega

theorem mul64_lo (a b : BitVec 64) :
    (BitVec.setWidth 64 (BitVec.setWidth 128 a * BitVec.setWidth 128 b)).toNat = a.toNat * b.toNat % 2^64 := by
  rw [BitVec.toNat_setWidth, mul128]

/-- ... and `hi <<< 64 ||| lo` in 128 bits is `hi * 2^64 + lo` (the dividend of `bits.Div64`). -/
theorem hilo (hi lo : BitVec 64) :
    ((BitVec.setWidth 128 hi <<< 64) ||| BitVec.setWidth 128 lo).toNat = hi.toNat * 2^64 + lo.toNat := by
  rw [BitVec.toNat_or, BitVec.toNat_shiftLeft, BitVec.toNat_setWidth_of_le (by decide),
    BitVec.toNat_setWidth_of_le (by decide), Nat.shiftLeft_eq, Nat.mod_eq_of_lt (by omega),
    ← Nat.shiftLeft_eq, ← Nat.shiftLeft_add_eq_or_of_lt lo.isLt, Nat.shiftLeft_eq]

/-- Dividing a two-word value `P` by `c` when its high word `P / b` is below `c` (the quotient then fits one
word: `bits.Div64` does not panic), and saturating otherwise, is `min (P / c) (b - 1)`. -/
theorem sat_div (P b c : Nat) (hb : 0 < b) (hc : 0 < c) :
    (if P / b < c then P / c % b else b - 1) = min (P / c) (b - 1) := by
  have e : P / b < c ↔ P / c < b := by
    rw [Nat.div_lt_iff_lt_mul hb, Nat.div_lt_iff_lt_mul hc, Nat.mul_comm]
  split
  · next h => rw [Nat.mod_eq_of_lt (e.1 h), Nat.min_eq_left (Nat.le_sub_one_of_lt (e.1 h))]
  · next h => rw [Nat.min_eq_right (Nat.le_trans (Nat.sub_le b 1) (Nat.le_of_not_lt (mt e.2 h)))]

/-- The computed limit is `floor(135 * cap / 100)`, saturated at 2^64 - 1. -/
theorem capacity_limit (cap nRecent p slotP : BitVec 64) (slotEq : Bool) (off ts : BitVec 32) :
    (Gen.Integrate.local_limit cap nRecent off p slotEq slotP ts).toNat
      = min (135 * cap.toNat / 100) (2^64 - 1) := by
  unfold Gen.Integrate.local_limit
  rw [apply_ite BitVec.toNat, BitVec.ult, mul64_hi, BitVec.toNat_setWidth, BitVec.udiv_eq, BitVec.toNat_udiv,
    hilo, mul64_hi, mul64_lo, Nat.div_add_mod', BitVec.toNat_setWidth_of_le (by decide), Nat.mul_comm]
  simp only [decide_eq_true_eq]
  exact sat_div _ _ _ (by decide) (by decide)

/-- A report is banned for over-capacity exactly when its power is non-negative
(below 2^63) and exceeds 135 % of the capacity. -/
theorem capacity (cap nRecent p slotP : BitVec 64) (slotEq : Bool) (off ts : BitVec 32) :
    Gen.Integrate.c6 cap nRecent off p slotEq slotP ts
      = decide (100 * p.toNat > 135 * cap.toNat ∧ p.toNat < 2^63) := by
  have e : Gen.Integrate.c6 cap nRecent off p slotEq slotP ts
      = (BitVec.ult (Gen.Integrate.local_limit cap nRecent off p slotEq slotP ts) p
          && BitVec.ule p (9223372036854775807#64)) := by rfl
  rw [e, BitVec.ult, capacity_limit]
  bv_arith

/-! ### C03: rotation triggers, week selection -/

/-- `int64(a) - int64(b)` of two `uint32`. -/
theorem toInt_zext_sub (a b : BitVec 32) :
    (BitVec.setWidth 64 a - BitVec.setWidth 64 b).toInt = (a.toNat : Int) - b.toNat := by
  rw [toInt_sub (by rw [toInt_zext, toInt_zext]; omega), toInt_zext, toInt_zext]

theorem startup_catchup (now off : BitVec 32) :
    Gen.MigrateLoop.c0 now off = decide ((now.toNat : Int) - off.toNat < 4000) := by
  unfold Gen.MigrateLoop.c0
  rw [BitVec.slt, toInt_zext_sub]; rfl

theorem rotation_trigger (now off : BitVec 32) :
    Gen.MigrateLoop.c1 now off = decide ((now.toNat : Int) - off.toNat > 3200) := by
  unfold Gen.MigrateLoop.c1
  rw [BitVec.slt, toInt_zext_sub]; rfl

theorem migrateLoop_kinds : Gen.MigrateLoop.condKinds = ["if-exit", "if"] := by rfl

theorem stats_misaligned (hoff off tso : BitVec 32) :
    Gen.StatsHandler.c0 hoff off tso = decide (tso.toNat % 2016 ≠ 0) :=
  bne_toNat

theorem stats_archived (hoff off tso : BitVec 32) :
    Gen.StatsHandler.c1 hoff off tso = decide (tso.toNat < off.toNat) := by rfl

theorem stats_archive_index (hoff off tso : BitVec 32) (h : hoff.toNat ≤ tso.toNat) :
    (Gen.StatsHandler.index0 hoff off tso).toNat = (tso.toNat - hoff.toNat) / 2016 := by
  unfold Gen.StatsHandler.index0
  rw [BitVec.udiv_eq, BitVec.toNat_udiv, BitVec.toNat_sub_of_le h]; rfl

theorem stats_kinds : Gen.StatsHandler.condKinds = ["if-exit", "if"] := by rfl

/-- `buildDeviceStats`: refused iff misaligned, before the window, or beyond its second week. -/
theorem buildStats_refusal (off tso : BitVec 32) (hoff : off.toNat + 2016 < 2^32) :
    (Gen.BuildStats.c0 off tso || Gen.BuildStats.c1 off tso || Gen.BuildStats.c3 off tso)
      = !decide (tso.toNat % 2016 = 0 ∧ off.toNat ≤ tso.toNat ∧ tso.toNat ≤ off.toNat + 2016) := by
  unfold Gen.BuildStats.c0 Gen.BuildStats.c1 Gen.BuildStats.c3
  have e := BitVec.toNat_add_of_lt (x := off) (y := 2016#32) hoff
  rw [bne_toNat, BitVec.umod_eq, BitVec.toNat_umod, BitVec.ult_eq_decide (x := off + _), e]
  bv_arith

/-- ... and the second week is read from array position 2016, the first from 0. -/
theorem buildStats_base (off tso : BitVec 32) (hoff : off.toNat + 2016 < 2^32) :
    (Gen.BuildStats.local_x off tso).toNat = if tso.toNat = off.toNat + 2016 then 2016 else 0 := by
  unfold Gen.BuildStats.local_x
  rw [beq_toNat, BitVec.toNat_add_of_lt hoff, apply_ite BitVec.toNat]
  simp only [decide_eq_true_eq]; rfl

theorem buildStats_kinds : Gen.BuildStats.condKinds = ["if-exit", "if-exit", "if", "if-exit"] := by rfl

/-! ### C08 / C10: bitfield rule on both sides, resend loop -/

/-- Server: bit `i` is set iff the stored power is non-zero (banned slots
included), in byte `i / 8` at position `i % 8`. -/
theorem sync_bit_rule (i p : BitVec 64) : Gen.SyncConn.c0 i p = decide (p.toNat > 0) := by rfl
theorem sync_byte_index (i p : BitVec 64) (h : i.toNat < 4032) :
    (Gen.SyncConn.local_byteIndex i p).toNat = i.toNat / 8 ∧
    (Gen.SyncConn.index0 i p).toNat = i.toNat / 8 ∧
    (Gen.SyncConn.local_bitIndex i p).toNat = i.toNat % 8 :=
  ⟨sdiv64_nonneg i _ (by omega) (by decide), sdiv64_nonneg i _ (by omega) (by decide),
   srem64_nonneg i _ (by omega) (by decide)⟩

/-- Client: the resend loop visits index `i` iff `i ≤ latest - off` (32-bit
wrap-around subtraction, as in the source) and `i / 8 < 504`. -/
theorem resend_loop (bfByte : BitVec 8) (errB : Bool) (i latest off pw : BitVec 32) :
    Gen.SyncRound.c7 bfByte errB i latest off pw
      = decide (i.toNat ≤ (latest.toNat + 2^32 - off.toNat) % 2^32 ∧ i.toNat / 8 < 504) := by
  unfold Gen.SyncRound.c7
  have hz : (BitVec.setWidth 64 i).toNat = i.toNat := BitVec.toNat_setWidth_of_le (by decide)
  have hs : (BitVec.sdiv (BitVec.setWidth 64 i) (8#64)).toNat = i.toNat / 8 := by
    rw [sdiv64_nonneg _ _ (by omega) (by decide), hz]; rfl
  -- `latest - off` in 32 bits is `(2^32 - off + latest) % 2^32`: the specification's sum in another order
  rw [BitVec.slt, toInt_of_lt (by omega), hs, BitVec.ule, BitVec.toNat_sub, Bool.decide_and,
    Nat.add_comm latest.toNat, Nat.sub_add_comm (Nat.le_of_lt off.isLt)]
  exact congrArg (_ && ·) (decide_eq_decide.2 Int.ofNat_lt)

/-- Client: the bit test reads bit `i % 8` of the byte. -/
theorem resend_bit (bfByte : BitVec 8) (errB : Bool) (i latest off pw : BitVec 32) :
    Gen.SyncRound.c8 bfByte errB i latest off pw = decide (bfByte.toNat / 2^(i.toNat % 8) % 2 = 0) := by
  unfold Gen.SyncRound.c8
  have hk : i.toNat % 8 < 8 := Nat.mod_lt _ (by decide)
  have h8 : (BitVec.umod i (8#32)).toNat = i.toNat % 8 := by
    rw [BitVec.umod_eq, BitVec.toNat_umod]; rfl
  rw [h8, Bool.eq_iff_iff]
  simp only [beq_iff_eq, ← BitVec.toNat_inj, BitVec.toNat_and, BitVec.toNat_shiftLeft, BitVec.toNat_ofNat,
    decide_eq_true_eq, Nat.reducePow, Nat.reduceMod, Nat.one_shiftLeft]
  rw [Nat.mod_eq_of_lt (show 2 ^ (i.toNat % 8) < 256 from Nat.pow_lt_pow_right (by decide) hk)]
  exact and_two_pow_eq_zero _ _

/-- Client: readings below 2 (sentinels, unreadable) are not retransmitted. -/
theorem resend_skip (bfByte : BitVec 8) (errB : Bool) (i latest off pw : BitVec 32) :
    Gen.SyncRound.c9 bfByte errB i latest off pw = (errB || decide (pw.toNat < 2)) := by rfl

/-- Client: the retransmitted power is the stored 32-bit value sign-extended to 64 bits. -/
theorem resend_energy (bfByte : BitVec 8) (errB : Bool) (i latest off pw : BitVec 32) :
    (Gen.SyncRound.field_Energy bfByte errB i latest off pw).toNat
      = if pw.toNat < 2^31 then pw.toNat else 2^64 - 2^32 + pw.toNat := by
  unfold Gen.SyncRound.field_Energy
  rw [BitVec.toNat_signExtend, BitVec.msb_eq_decide, BitVec.toNat_setWidth_of_le (by decide)]
  by_cases h : pw.toNat < 2^31
  · rw [if_pos h, decide_eq_false (Nat.not_le.2 h)]; rfl
  · rw [if_neg h, decide_eq_true (Nat.not_lt.1 h), Nat.add_comm]; rfl

theorem resend_timeslot (bfByte : BitVec 8) (errB : Bool) (i latest off pw : BitVec 32) :
    (Gen.SyncRound.field_Timeslot bfByte errB i latest off pw).toNat = (i.toNat + off.toNat) % 2^32 :=
  BitVec.toNat_add _ _

/-! ### C10 / C11: reply length and freshness -/

theorem reply_min_length (now signingTime : BitVec 64) (respLen : BitVec 16) :
    Gen.ServerSync.c0 now respLen signingTime = decide (respLen.toNat < 712) := by rfl

/-- Freshness: rejected iff the signing time is more than 24 h from the
client's clock, for every pair of 64-bit values with `now` at least a day after
the epoch and a day before 2^64 seconds. -/
theorem reply_freshness (now signingTime : BitVec 64) (respLen : BitVec 16)
    (h1 : 86400 ≤ now.toNat) (h2 : now.toNat + 86400 < 2^64) :
    Gen.ServerSync.c1 now respLen signingTime
      = decide (now.toNat + 86400 < signingTime.toNat ∨ signingTime.toNat < now.toNat - 86400) := by
  unfold Gen.ServerSync.c1
  rw [BitVec.ult, BitVec.ult, BitVec.toNat_add_of_lt h2, BitVec.toNat_sub_of_le h1, Bool.decide_or]
  rfl

/-! ### C09: history store guards and byte offset -/

/-- `4 * (1 + ts - off)` in 32 bits is exact inside the accepted range. -/
theorem byteOffset_toNat (off ts : BitVec 32) (h : off.toNat ≤ ts.toNat) (h2 : ts.toNat - off.toNat < 2^30 - 1) :
    (4#32 * (1#32 + ts - off)).toNat = 4 * (1 + (ts.toNat - off.toNat)) := by
  -- `1 + ts` may wrap (ts = 2^32 - 1); the difference does not
  simp only [BitVec.toNat_mul, BitVec.toNat_sub, BitVec.toNat_add, BitVec.reduceToNat]
  omega

theorem save_before_origin (cur off rd ts : BitVec 32) :
    Gen.SaveReading.c0 cur off rd ts = decide (ts.toNat < off.toNat) := by rfl
theorem save_beyond_range (cur off rd ts : BitVec 32) (h : off.toNat ≤ ts.toNat) :
    Gen.SaveReading.c1 cur off rd ts = decide (2^30 - 1 ≤ ts.toNat - off.toNat) := by
  unfold Gen.SaveReading.c1
  rw [BitVec.ule, BitVec.toNat_sub_of_le h]; rfl
theorem save_same (cur off rd ts : BitVec 32) :
    Gen.SaveReading.c2 cur off rd ts = decide (cur.toNat = rd.toNat) :=
  beq_toNat
theorem save_occupied (cur off rd ts : BitVec 32) :
    Gen.SaveReading.c3 cur off rd ts = decide (cur.toNat ≠ 0) :=
  bne_toNat
/-- Inside the accepted range the byte offset is exact (no 32-bit wrap-around). -/
theorem save_offset (cur off rd ts : BitVec 32) (h : off.toNat ≤ ts.toNat)
    (h2 : ts.toNat - off.toNat < 2^30 - 1) :
    (Gen.SaveReading.local_byteOffset cur off rd ts).toNat = 4 * (1 + (ts.toNat - off.toNat)) :=
  byteOffset_toNat off ts h h2
theorem save_kinds : Gen.SaveReading.condKinds = ["if-exit", "if-exit", "if-exit", "if-exit"] := by rfl

theorem load_before_origin (off ts : BitVec 32) :
    Gen.LoadReading.c0 off ts = decide (ts.toNat < off.toNat) := by rfl
theorem load_beyond_range (off ts : BitVec 32) (h : off.toNat ≤ ts.toNat) :
    Gen.LoadReading.c1 off ts = decide (2^30 - 1 ≤ ts.toNat - off.toNat) := by
  unfold Gen.LoadReading.c1
  rw [BitVec.ule, BitVec.toNat_sub_of_le h]; rfl
theorem load_offset (off ts : BitVec 32) (h : off.toNat ≤ ts.toNat) (h2 : ts.toNat - off.toNat < 2^30 - 1) :
    (Gen.LoadReading.local_byteOffset off ts).toNat = 4 * (1 + (ts.toNat - off.toNat)) :=
  byteOffset_toNat off ts h h2
theorem load_kinds : Gen.LoadReading.condKinds = ["if-exit", "if-exit"] := by rfl

/-! ### C13 / C12: impact job re-validation -/

theorem impact_guard (ex : Bool) (off ts : BitVec 32) :
    Gen.ImpactRound.c1 ex off ts = (ex && decide (off.toNat ≤ ts.toNat ∧ ts.toNat - off.toNat < 4032)) := by
  unfold Gen.ImpactRound.c1
  by_cases h : off.toNat ≤ ts.toNat
  · rw [BitVec.ult, BitVec.toNat_sub_of_le h, BitVec.ule, Bool.and_assoc, ← Bool.decide_and]; rfl
  · simp [BitVec.ule, h]
theorem impact_index (ex : Bool) (off ts : BitVec 32) (h : off.toNat ≤ ts.toNat) :
    (Gen.ImpactRound.index0 ex off ts).toNat = ts.toNat - off.toNat :=
  BitVec.toNat_sub_of_le h

/-! ### C19 / C18: comparisons of the rate limiter and the event log (signed 64-bit, no overflow in range) -/

/-- `t.After(now.Add(-rate))` is `t > now - rate` for clock values and windows below 2^62 ns (146 years). -/
theorem rate_expiry (limit n now rate t : BitVec 64)
    (hn : now.toInt.natAbs < 2^62) (hr : rate.toInt.natAbs < 2^62) :
    Gen.RateAllow.c0 limit n now rate t = decide (t.toInt > now.toInt - rate.toInt) := by
  unfold Gen.RateAllow.c0
  rw [BitVec.slt, ← BitVec.sub_eq_add_neg, toInt_sub (by omega)]
theorem rate_limit (limit n now rate t : BitVec 64) :
    Gen.RateAllow.c1 limit n now rate t = decide (n.toInt < limit.toInt) := by rfl
theorem rate_kinds : Gen.RateAllow.condKinds = ["if-exit", "if-exit"] := by rfl

theorem log_expiry (expiry now ts : BitVec 64)
    (hn : now.toInt.natAbs < 2^62) (he : expiry.toInt.natAbs < 2^62) :
    Gen.LogExpire.c0 expiry now ts = decide (ts.toInt < now.toInt - expiry.toInt) := by
  unfold Gen.LogExpire.c0
  rw [BitVec.slt, ← BitVec.sub_eq_add_neg, toInt_sub (by omega)]
theorem log_cut (klen maxB maxLine size : BitVec 64) :
    Gen.LogPrintf.c0 klen maxB maxLine size = decide (klen.toInt > maxLine.toInt) := by rfl

/-- `2 * len(key)` in int64. -/
theorem toInt_two_mul (k : BitVec 64) (hk : k.toNat < 2^62) : (2#64 * k).toInt = 2 * k.toInt := by
  have hi := toInt_of_lt (a := k) (by omega)
  rw [toInt_mul (by rw [hi]; simp only [BitVec.reduceToInt]; omega)]; rfl

theorem log_unstorable (klen maxB maxLine size : BitVec 64) (hk : klen.toNat < 2^62) :
    Gen.LogPrintf.c1 klen maxB maxLine size = decide (2 * klen.toInt > maxB.toInt) := by
  unfold Gen.LogPrintf.c1
  rw [BitVec.slt, toInt_two_mul klen hk]
theorem log_evict (klen maxB maxLine size : BitVec 64) (hk : klen.toNat < 2^61) (hs : size.toInt.natAbs < 2^62) :
    Gen.LogPrintf.c2 klen maxB maxLine size = decide (2 * klen.toInt + size.toInt > maxB.toInt) ∧
    Gen.LogPrintf.c3 klen maxB maxLine size = decide (2 * klen.toInt + size.toInt > maxB.toInt) := by
  unfold Gen.LogPrintf.c2 Gen.LogPrintf.c3
  have hm := toInt_two_mul klen (by omega)
  have hi := toInt_of_lt (a := klen) (by omega)
  rw [BitVec.slt, toInt_add (by omega), hm]
  exact ⟨rfl, rfl⟩
theorem log_kinds : Gen.LogPrintf.condKinds = ["if", "if-exit", "if", "for"] := by rfl

/-! ### C01 / C12: the UDP listener hands over only datagrams of exactly 80 bytes read -/

theorem udp_length_guard (n : BitVec 64) : Gen.ListenUDP.c0 n = decide (n.toNat ≠ 80) :=
  bne_toNat
theorem udp_kinds : Gen.ListenUDP.condKinds = ["if-exit"] := by rfl

/-! ### C10 / C15 / C17: locations must fit the one-byte length field; ban rule of the server list -/

theorem migration_location_bound (n : BitVec 64) (h : n.toNat < 2^63) :
    Gen.ValidateMigration.c0 n = decide (n.toNat > 255) := by
  unfold Gen.ValidateMigration.c0
  rw [BitVec.slt, toInt_of_lt h]
  exact decide_eq_decide.mpr Int.ofNat_lt
theorem server_location_bound (n : BitVec 64) (nb ob : Bool) (h : n.toNat < 2^63) :
    Gen.AuthServersPOST.c0 n nb ob = decide (n.toNat > 255) := by
  unfold Gen.AuthServersPOST.c0
  rw [BitVec.slt, toInt_of_lt h]
  exact decide_eq_decide.mpr Int.ofNat_lt
/-- An entry for a known key is ignored if the known entry is already banned, or if the new one does not ban. -/
theorem server_ban_rule (n : BitVec 64) (nb ob : Bool) :
    Gen.AuthServersPOST.c1 n nb ob = ob ∧ Gen.AuthServersPOST.c2 n nb ob = !nb := ⟨rfl, rfl⟩
theorem authServersPOST_kinds : Gen.AuthServersPOST.condKinds = ["if-exit", "if-exit", "if-exit"] := by rfl
theorem validateMigration_kinds : Gen.ValidateMigration.condKinds = ["if-exit"] := by rfl

/-! ### C09 / C11: the reporting loop: a record is sent only after its save succeeded and only if newer; sync scheduling -/

/-- The branch after the save is an early `continue` on error (so nothing is sent for a refused
reading), and the send is guarded by "newer than the latest record". -/
theorem sendloop_kinds : Gen.SendLoop.condKinds = ["if", "if-exit", "if", "if", "if"] := by rfl
theorem sendloop_save_guard (errB okB : Bool) (latest ts : BitVec 32) (st ticks : BitVec 64) :
    Gen.SendLoop.c1 errB latest okB st ticks ts = errB := by rfl
theorem sendloop_newer_only (errB okB : Bool) (latest ts : BitVec 32) (st ticks : BitVec 64) :
    Gen.SendLoop.c2 errB latest okB st ticks ts = decide (ts.toNat > latest.toNat) ∧
    Gen.SendLoop.c3 errB latest okB st ticks ts = decide (ts.toNat > latest.toNat) := ⟨rfl, rfl⟩
/-- A sync round starts when the counter reaches 60, or after a failed round when `ticks % 4 = 3`
(`Cl.shouldSync`), for every counter value that a loop which resets at 60 can reach. -/
theorem sync_schedule (errB okB : Bool) (latest ts : BitVec 32) (st ticks : BitVec 64) (h : ticks.toNat < 2^62) :
    Gen.SendLoop.c4 errB latest okB st ticks ts = Gca.Cl.shouldSync ticks.toNat st.toNat := by
  unfold Gen.SendLoop.c4 Gca.Cl.shouldSync
  have hr : (BitVec.srem ticks (4#64)).toNat = ticks.toNat % 4 :=
    srem64_nonneg ticks (4#64) (by omega) (by decide)
  rw [BitVec.sle, toInt_of_lt (a := ticks) (by omega), beq_toNat, beq_toNat, hr]
  bv_arith


/-! ### Shape pins

The conditions of a target function that are outside the translated fragment (error tests, map look-ups,
signature calls, loop bounds over slices) cannot be given a semantic obligation. Their TEXT, in source
order, is pinned instead: a change to one of them - a dropped `.Banned` test, a signature call with another
key, a look-up that lost its comma-ok form - breaks the pin. A harmless rewording breaks it too; the
check then reports the pin by name and looks for a failing input like for any other obligation. -/
theorem shape_syncround : Gen.SyncRound.untranslated = ["i < 6", "i == 5", "!c.tg.Sleep(sendReportTime)", "exists || c.gcaServers[server].Banned", "!found", "err == nil", "newGCA != c.gcaPubKey && newGCA != blank", "!exists || s.Banned", "!exists || s.Banned"] := by rfl
theorem shape_serversync : Gen.ServerSync.untranslated = ["err != nil", "err != nil", "err != nil", "err != nil", "n != int(respLen)", "!glow.Verify(gcasKey, respBuf[:respLen - 64], sig)", "equipmentKey != c.staticPubKey", "newGCA != blank && !glow.Verify(gcaKey, newGCASigningBytes, newGCASignature)", "i + 34 > end", "i + locationLen + 70 > end", "newGCA != blank && len(gcaServers) == 0", "newGCA != blank", "!verify"] := by rfl
theorem shape_authservers : Gen.AuthServersPOST.untranslated = ["err != nil", "!glow.Verify(gcaPubkey, sb, server.GCAAuthorization)", "i < len(s.gcaServers.servers)", "s.gcaServers.servers[i].PublicKey == server.PublicKey", "as.Banned", "err != nil", "err != nil", "err != nil", "err != nil"] := by rfl
theorem shape_validatemigration : Gen.ValidateMigration.untranslated = ["!glow.Verify(gcaPubkey, sb, em.Signature)", "!glow.Verify(em.NewGCA, sb, as.GCAAuthorization)"] := by rfl
theorem shape_syncconn : Gen.SyncConn.untranslated = ["err != nil", "exists", "!exists || !exists2", "migrationExists", "s.Banned", "err != nil"] := by rfl
theorem shape_statshandler : Gen.StatsHandler.untranslated = ["r.Method != http.MethodGet", "tsoStr == \"\"", "err != nil", "err != nil", "wantNegStr == \"true\"", "i < len(stats.Devices)", "j < len(stats.Devices[i].PowerOutputs)", "rand.Intn(50) != 1", "stats.Devices[i].PowerOutputs[j] < 24", "stats.Devices[i].PowerOutputs[j] > 1e18", "err != nil"] := by rfl
theorem shape_loadreading : Gen.LoadReading.untranslated = ["err == io.EOF", "err != nil"] := by rfl
theorem shape_savereading : Gen.SaveReading.untranslated = ["err != nil", "err != nil"] := by rfl
theorem shape_sendloop : Gen.SendLoop.untranslated = ["!isRecent || err != nil", "c.tg.IsStopped()", "!c.tg.Sleep(sendReportTime + randomTimeExtension())", "success"] := by rfl
theorem shape_handlereport : Gen.HandleReport.untranslated = ["err != nil"] := by rfl
theorem shape_rateallow : Gen.RateAllow.untranslated = ["idx == -1"] := by rfl
theorem shape_logprintf : Gen.LogPrintf.untranslated = ["found"] := by rfl
theorem shape_logexpire : Gen.LogExpire.untranslated = ["len(entry.updates) == 0"] := by rfl
theorem shape_integrate : Gen.Integrate.untranslated = [] := by rfl
theorem shape_migrateloop : Gen.MigrateLoop.untranslated = ["!gcas.tg.Sleep(ReportMigrationFrequency)"] := by rfl
theorem shape_impactround : Gen.ImpactRound.untranslated = ["err != nil", "err != nil", "err != nil"] := by rfl
theorem shape_listenudp : Gen.ListenUDP.untranslated = ["server.tg.IsStopped()", "err != nil", "!server.tg.IsStopped()"] := by rfl
theorem shape_buildstats : Gen.BuildStats.untranslated = ["i < 2016"] := by rfl
/-- The three places where a signature decides: a datagram is parsed (length, known id, signature - nothing
else, and nothing that could switch the signature test off), an authorization is verified, a registration is
accepted (not yet registered, signature of the temporary key, the key file written). -/
theorem shape_parsereport : Gen.ParseReport.condKinds = ["if-exit"] ∧
    Gen.ParseReport.untranslated = ["!ok", "!glow.Verify(equipment.PublicKey, sb, report.Signature)"] := ⟨rfl, rfl⟩
theorem parsereport_length (n : BitVec 64) : Gen.ParseReport.c0 n = decide (n.toNat ≠ 80) :=
  bne_toNat
/-- The four loaders of a start: what they test is pinned (a missing file is created, any other read error
ends the start, a partial trailing record is dropped, a record that does not verify ends the start -
nothing is skipped, defaulted or retried), and the two length tests are the specified ones. -/
theorem shape_loadequipment : Gen.LoadEquipment.condKinds = ["if"] ∧ Gen.LoadEquipment.untranslated =
    ["err != nil", "os.IsNotExist(err)", "err != nil", "err != nil", "buffer.Len() > 0", "err != nil", "err != nil",
     "exists", "exists", "bytes.Equal(a, b)", "used", "!exists"] := ⟨rfl, rfl⟩
theorem shape_loadhistory : Gen.LoadHistory.condKinds = ["if-exit"] ∧ Gen.LoadHistory.untranslated =
    ["os.IsNotExist(err)", "err != nil", "err != nil", "err != nil", "err != nil", "terr != nil"] ∧
    (∀ n, Gen.LoadHistory.c0 n = (n == 0#64)) := ⟨rfl, rfl, fun _ => rfl⟩
theorem shape_loadreports : Gen.LoadReports.condKinds = ["if"] ∧ Gen.LoadReports.untranslated =
    ["err != nil", "!os.IsNotExist(err)", "err != nil", "err != nil", "i < len(rawData) / 80", "banned", "err != nil"] := ⟨rfl, rfl⟩
theorem shape_loadgcapubkey : Gen.LoadGCAPubkey.condKinds = ["if-exit"] ∧ Gen.LoadGCAPubkey.untranslated =
    ["os.IsNotExist(err) || (err == nil && len(pubkeyData) == 0)", "err != nil"] := ⟨rfl, rfl⟩
/-- "The log ends inside a record": the remainder of the file length by the record size (a Go `int`, never negative). -/
theorem loadequipment_torn (n : BitVec 64) (h : n.toNat < 2^63) :
    Gen.LoadEquipment.c0 n = decide (n.toNat % 148 ≠ 0) := by
  unfold Gen.LoadEquipment.c0
  rw [bne_toNat, srem64_nonneg n _ h (by decide)]; rfl
theorem loadreports_torn (n : BitVec 64) (h : n.toNat < 2^63) :
    Gen.LoadReports.c0 n = decide (n.toNat % 80 ≠ 0) := by
  unfold Gen.LoadReports.c0
  rw [bne_toNat, srem64_nonneg n _ h (by decide)]; rfl
theorem loadgcapubkey_length (n : BitVec 64) : Gen.LoadGCAPubkey.c0 n = decide (n.toNat ≠ 32) :=
  bne_toNat
theorem shape_verifyauth : Gen.VerifyAuth.condKinds = [] ∧ Gen.VerifyAuth.untranslated = ["!isValid"] := ⟨rfl, rfl⟩
theorem shape_registergca : Gen.RegisterGCA.condKinds = ["if-exit"] ∧ Gen.RegisterGCA.untranslated = ["!isValid", "err != nil"] ∧
    (∀ b, Gen.RegisterGCA.c0 b = b) := ⟨rfl, rfl, fun _ => rfl⟩


/-- `managedGetWattTimeWeekData` (production build) is called by the rotation BEFORE it rotates and has to
come back whatever WattTime does: one early exit for the test build, error returns, two bounded loops over
devices and dates - no retry loop, no sleep. -/
theorem shape_weekdata :
    Gen.WeekData.condKinds = ["if-exit", "if"] ∧
    Gen.WeekData.untranslated = ["err != nil", "err != nil", "i >= 4032", "err != nil", "timeslot >= gcas.equipmentReportsOffset"] := ⟨rfl, rfl⟩

end Gca.Tie
