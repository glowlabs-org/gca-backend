/-
Byte-level vocabulary shared by every model file: byte strings, little-endian fixed-width integers,
sequential reads (`rd`, `rdWords`) with the lemmas the codec round trips rest on, and the list facts that
several property files need (`dropWhile_eq_filter`, `length_concat`, `isEmpty_append_of_pos`). Core Lean
only (no Mathlib), so that the driver can be linked as an executable.
-/

abbrev Bytes := List UInt8

namespace Gca

/-- `leBytes k n`: the `k` low-order bytes of `n`, least significant first
(Go: `binary.LittleEndian.PutUintXX`). -/
def leBytes : Nat → Nat → Bytes
  | 0, _ => []
  | k+1, n => UInt8.ofNat (n % 256) :: leBytes k (n / 256)

/-- Little-endian value of a byte string (Go: `binary.LittleEndian.UintXX`). -/
def unle : Bytes → Nat
  | [] => 0
  | b :: bs => b.toNat + 256 * unle bs

@[simp] theorem leBytes_length (k n : Nat) : (leBytes k n).length = k := by
  induction k generalizing n with
  | zero => rfl
  | succ k ih => simp [leBytes, ih]

theorem unle_leBytes (k n : Nat) : unle (leBytes k n) = n % 256 ^ k := by
  induction k generalizing n with
  | zero => simp [leBytes, unle, Nat.mod_one]
  | succ k ih =>
    simp only [leBytes, unle, ih]
    have : (UInt8.ofNat (n % 256)).toNat = n % 256 := by
      simp [UInt8.toNat_ofNat']
    rw [this, Nat.pow_succ, Nat.mul_comm (256^k) 256, Nat.mod_mul]

@[simp] theorem unle_leBytes_of_lt {k n : Nat} (h : n < 256 ^ k) : unle (leBytes k n) = n := by
  rw [unle_leBytes, Nat.mod_eq_of_lt h]

theorem unle_lt {bs : Bytes} : unle bs < 256 ^ bs.length := by
  induction bs with
  | nil => simp [unle]
  | cons b bs ih =>
    simp only [unle, List.length_cons]
    have := b.toNat_lt
    omega

theorem leBytes_unle {k : Nat} {bs : Bytes} (h : bs.length = k) : leBytes k (unle bs) = bs := by
  subst h
  induction bs with
  | nil => rfl
  | cons b bs ih =>
    simp only [List.length_cons, leBytes, unle]
    have hb := b.toNat_lt
    have h1 : (b.toNat + 256 * unle bs) % 256 = b.toNat := by omega
    have h2 : (b.toNat + 256 * unle bs) / 256 = unle bs := by omega
    rw [h1, h2, ih]
    simp

theorem leBytes_inj {k a b : Nat} (ha : a < 256 ^ k) (hb : b < 256 ^ k)
    (h : leBytes k a = leBytes k b) : a = b := by
  have := congrArg unle h
  rwa [unle_leBytes_of_lt ha, unle_leBytes_of_lt hb] at this

theorem unle_take_lt (k : Nat) (b : Bytes) : unle (b.take k) < 256 ^ k :=
  Nat.lt_of_lt_of_le unle_lt (Nat.pow_le_pow_right (by decide) (List.length_take_le k b))

/-- A flag byte (Go: `if b { 1 } else { 0 }`) read back with `!= 0`. -/
@[simp] theorem unle_boolByte (b : Bool) : (unle [if b then (1 : UInt8) else 0] != 0) = b := by
  cases b <;> rfl

/-- ASCII bytes of a string literal (Go: `[]byte("...")` for ASCII text; one
byte per character, which is what UTF-8 gives for code points below 128). -/
def ascii (s : String) : Bytes := s.toList.map (fun c => UInt8.ofNat c.toNat)

def zeros (n : Nat) : Bytes := List.replicate n 0

@[simp] theorem zeros_length {n : Nat} : (zeros n).length = n := by simp [zeros]

/-- Along a list on which `q`, once true, stays true (a sorted list and a threshold), dropping the leading
elements that fail `q` leaves exactly the elements that satisfy it. -/
theorem dropWhile_eq_filter {α} {p q : α → Bool} (hpq : ∀ a, q a = true ↔ ¬ p a = true) : ∀ {l : List α},
    l.Pairwise (fun a b => q a = true → q b = true) → l.dropWhile p = l.filter q
  | [], _ => rfl
  | a :: l, h => by
    rw [List.pairwise_cons] at h
    by_cases ha : p a = true
    · rw [List.dropWhile_cons_of_pos ha, List.filter_cons_of_neg (mt (hpq a).1 (not_not_intro ha)),
        dropWhile_eq_filter hpq h.2]
    · rw [List.dropWhile_cons_of_neg ha, List.filter_cons_of_pos ((hpq a).2 ha),
        List.filter_eq_self.2 fun b hb => h.1 b hb ((hpq a).2 ha)]

/-- Length of a concatenation of records of one size, for any of the `encode..` functions of a list
(each is its own recursive definition; `h0` and `hc` are `rfl` for all of them). -/
theorem length_concat {α} {enc : α → Bytes} {encs : List α → Bytes} {sz : Nat}
    (h0 : encs [] = []) (hc : ∀ a as, encs (a :: as) = enc a ++ encs as)
    (as : List α) (h : ∀ a ∈ as, (enc a).length = sz) : (encs as).length = sz * as.length := by
  induction as with
  | nil => simp [h0]
  | cons a as ih =>
    simp [hc, h a, ih fun x hx => h x (List.mem_cons_of_mem _ hx), Nat.mul_succ, Nat.add_comm]

/-- The decoding loops go on while there is input: a record in front, which is never empty, is input. -/
theorem isEmpty_append_of_pos {a : Bytes} (h : 0 < a.length) (r : Bytes) : (a ++ r).isEmpty = false := by
  cases a with
  | nil => cases h
  | cons => rfl

/-- Read `n` bytes: (the bytes read, the rest). Sequential decoders are written
with `rd` exactly as the Go code advances an index or a reader. -/
def rd (n : Nat) (b : Bytes) : Bytes × Bytes := (b.take n, b.drop n)

/-- The one fact the round trips use: a read of `n` bytes meets a field of `n` bytes. The length is a
hypothesis so that `simp` can discharge it from `leBytes_length` or a well-formedness assumption. -/
@[simp] theorem rd_app {n : Nat} {a r : Bytes} (h : a.length = n) : rd n (a ++ r) = (a, r) := by
  simp [rd, List.take_left' h, List.drop_left' h]

@[simp] theorem rd_zero (b : Bytes) : rd 0 b = ([], b) := rfl

/-- For a field written as a literal `[x]`: `simp` makes `[x] ++ r` into `x :: r` before `rd_app` can meet it. -/
@[simp] theorem rd_cons (n : Nat) (x : UInt8) (b : Bytes) :
    rd (n + 1) (x :: b) = (x :: (rd n b).1, (rd n b).2) := rfl

theorem rd_fst_length {n : Nat} {b : Bytes} (h : n ≤ b.length) : (rd n b).1.length = n := by
  simp [rd, Nat.min_eq_left h]

theorem rd_snd_length (n : Nat) (b : Bytes) : (rd n b).2.length = b.length - n := by
  simp [rd]

theorem rd_join (n : Nat) (b : Bytes) : (rd n b).1 ++ (rd n b).2 = b := by
  simp [rd]

/-- `k`-byte little-endian words, concatenated (Go: a loop of PutUint64). -/
def leWords (k : Nat) : List Nat → Bytes
  | [] => []
  | v :: vs => leBytes k v ++ leWords k vs

/-- Read `n` words of `k` bytes each. -/
def rdWords (k : Nat) : Nat → Bytes → List Nat × Bytes
  | 0, b => ([], b)
  | n+1, b => let (w, r) := rd k b; let (ws, r') := rdWords k n r; (unle w :: ws, r')

@[simp] theorem leWords_length (k : Nat) (vs : List Nat) : (leWords k vs).length = k * vs.length := by
  induction vs with
  | nil => simp [leWords]
  | cons v vs ih => simp [leWords, ih, Nat.mul_succ, Nat.add_comm]

theorem rdWords_leWords {k n : Nat} {vs : List Nat} {r : Bytes} (hn : vs.length = n)
    (h : ∀ v ∈ vs, v < 256 ^ k) : rdWords k n (leWords k vs ++ r) = (vs, r) := by
  subst hn
  induction vs with
  | nil => simp [rdWords, leWords]
  | cons v vs ih =>
    have hv := h v (by simp)
    have ih := ih (fun w hw => h w (by simp [hw]))
    simp only [List.length_cons, rdWords, leWords, List.append_assoc, rd_app (leBytes_length k v), ih,
      unle_leBytes_of_lt hv]

theorem rdWords_fst_length (k n : Nat) (b : Bytes) : (rdWords k n b).1.length = n := by
  induction n generalizing b with
  | zero => simp [rdWords]
  | succ n ih => simp [rdWords, ih]

theorem rdWords_snd_length (k n : Nat) (b : Bytes) : (rdWords k n b).2.length = b.length - k * n := by
  induction n generalizing b with
  | zero => simp [rdWords]
  | succ n ih => simp only [rdWords, ih, rd_snd_length]; rw [Nat.mul_succ]; omega

theorem rdWords_lt (k n : Nat) (b : Bytes) (hk : k * n ≤ b.length) :
    ∀ v ∈ (rdWords k n b).1, v < 256 ^ k := by
  induction n generalizing b with
  | zero => simp [rdWords]
  | succ n ih =>
    intro v hv
    simp only [rdWords, List.mem_cons] at hv
    rw [Nat.mul_succ] at hk
    rcases hv with rfl | hv
    · exact unle_take_lt k b
    · exact ih (rd k b).2 (by rw [rd_snd_length]; omega) v hv

end Gca
