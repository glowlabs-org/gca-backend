import Gca.Basic
/-
glow/equipment_authorization.go: EquipmentAuthorization (148 bytes on disk),
SigningBytes = "EquipmentAuthorization" ++ first 84 bytes.
Floats are carried as their IEEE-754 bit patterns (`math.Float64bits`).
-/
namespace Gca

structure Auth where
  id   : Nat     -- ShortID uint32
  key  : Bytes   -- PublicKey [32]byte
  lat  : Nat     -- Float64bits(Latitude)
  lon  : Nat     -- Float64bits(Longitude)
  cap  : Nat     -- Capacity uint64
  debt : Nat     -- Debt uint64
  exp  : Nat     -- Expiration uint32
  ini  : Nat     -- Initialization uint32
  fee  : Nat     -- ProtocolFee uint64
  sig  : Bytes   -- Signature [64]byte
deriving DecidableEq, Repr, Inhabited

namespace Auth

def WF (a : Auth) : Prop :=
  a.id < 2^32 ∧ a.key.length = 32 ∧ a.lat < 2^64 ∧ a.lon < 2^64 ∧ a.cap < 2^64 ∧
  a.debt < 2^64 ∧ a.exp < 2^32 ∧ a.ini < 2^32 ∧ a.fee < 2^64 ∧ a.sig.length = 64

instance (a : Auth) : Decidable a.WF := by unfold WF; infer_instance

/-- The 84 signed bytes (everything but the signature). -/
def body (a : Auth) : Bytes :=
  leBytes 4 a.id ++ (a.key ++ (leBytes 8 a.lat ++ (leBytes 8 a.lon ++ (leBytes 8 a.cap ++
  (leBytes 8 a.debt ++ (leBytes 4 a.exp ++ (leBytes 4 a.ini ++ leBytes 8 a.fee)))))))

def encode (a : Auth) : Bytes := body a ++ a.sig

def prefixStr : String := "EquipmentAuthorization"
def signingBytes (a : Auth) : Bytes := ascii prefixStr ++ body a

def decode (b : Bytes) : Option Auth :=
  if b.length ≠ 148 then none else
  let (id, b) := rd 4 b;  let (key, b) := rd 32 b
  let (lat, b) := rd 8 b; let (lon, b) := rd 8 b
  let (cap, b) := rd 8 b; let (debt, b) := rd 8 b
  let (exp, b) := rd 4 b; let (ini, b) := rd 4 b
  let (fee, b) := rd 8 b
  some ⟨unle id, key, unle lat, unle lon, unle cap, unle debt, unle exp, unle ini, unle fee, b⟩

theorem encode_length (a : Auth) (h : a.WF) : (encode a).length = 148 := by
  simp [encode, body, h.2.1, h.2.2.2.2.2.2.2.2.2]

/-- The decoder inverts the signed part followed by any 64 bytes: the round trip is the case
`s = a.sig`, and the signed part alone determines every field but the signature (C15). -/
theorem decode_body (a : Auth) (h : a.WF) (s : Bytes) (hs : s.length = 64) :
    decode (body a ++ s) = some { a with sig := s } := by
  obtain ⟨h1, h2, h3, h4, h5, h6, h7, h8, h9, _⟩ := h
  simp [decode, body, *]

theorem decode_encode (a : Auth) (h : a.WF) : decode (encode a) = some a :=
  decode_body a h a.sig h.2.2.2.2.2.2.2.2.2

theorem encode_inj {a b : Auth} (ha : a.WF) (hb : b.WF) (h : encode a = encode b) : a = b := by
  have := congrArg decode h
  rwa [decode_encode a ha, decode_encode b hb, Option.some.injEq] at this

end Auth
end Gca
