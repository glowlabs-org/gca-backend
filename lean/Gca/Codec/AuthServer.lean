import Gca.Basic
/-
server/authorized_servers.go (AuthorizedServer.Serialize / SigningBytes),
server/api_equipment_migrate.go (EquipmentMigration), and
server/api_server_gca_auth.go (GCARegistration.SigningBytes).
The only decoder of an AuthorizedServer in the code base is the loop in the
client's sync-reply parser (client/reports.go); `decode1`/`decodeList` follow it.
-/
namespace Gca

structure AuthServer where
  key    : Bytes   -- PublicKey [32]byte
  banned : Bool
  loc    : Bytes   -- Location string
  http   : Nat     -- uint16
  tcp    : Nat
  udp    : Nat
  sig    : Bytes   -- GCAAuthorization [64]byte
deriving DecidableEq, Repr, Inhabited

namespace AuthServer

def WF (a : AuthServer) : Prop :=
  a.key.length = 32 ∧ a.loc.length < 256 ∧ a.http < 2^16 ∧ a.tcp < 2^16 ∧ a.udp < 2^16 ∧
  a.sig.length = 64

instance (a : AuthServer) : Decidable a.WF := by unfold WF; infer_instance

def bannedByte (b : Bool) : Bytes := [if b then 1 else 0]

/-- Everything but the signature. The length byte is `byte(len(Location))`,
i.e. the length modulo 256, exactly as the Go code writes it. -/
def body (a : AuthServer) : Bytes :=
  a.key ++ (bannedByte a.banned ++ (leBytes 1 a.loc.length ++ (a.loc ++
  (leBytes 2 a.http ++ (leBytes 2 a.tcp ++ leBytes 2 a.udp)))))

def encode (a : AuthServer) : Bytes := body a ++ a.sig

def prefixStr : String := "AuthorizedServer"
def signingBytes (a : AuthServer) : Bytes := ascii prefixStr ++ body a

theorem encode_length (a : AuthServer) (h : a.WF) : (encode a).length = 104 + a.loc.length := by
  obtain ⟨h1, _, _, _, _, h6⟩ := h
  simp [encode, body, bannedByte, h1, h6]; omega

/-- One iteration of the client's parsing loop over the region that holds the
server entries: `none` is the loop's "length mismatch" error. -/
def decode1 (b : Bytes) : Option (AuthServer × Bytes) :=
  if b.length < 34 then none else
  let (key, b) := rd 32 b
  let (bn, b) := rd 1 b
  let (ll, b) := rd 1 b
  let n := unle ll
  if b.length < n + 70 then none else
  let (loc, b) := rd n b
  let (http, b) := rd 2 b
  let (tcp, b) := rd 2 b
  let (udp, b) := rd 2 b
  let (sig, b) := rd 64 b
  some (⟨key, unle bn != 0, loc, unle http, unle tcp, unle udp, sig⟩, b)

/-- The whole loop (`for i < end`); fuel bounds the number of iterations and
is always taken as the region length (every iteration consumes ≥ 104 bytes). -/
def decodeList : Nat → Bytes → Option (List AuthServer)
  | 0, b => if b.isEmpty then some [] else none
  | fuel+1, b =>
    if b.isEmpty then some [] else
    match decode1 b with
    | none => none
    | some (a, r) => match decodeList fuel r with
      | none => none
      | some as => some (a :: as)

def encodeList : List AuthServer → Bytes
  | [] => []
  | a :: as => encode a ++ encodeList as

/-- One iteration inverts the signed part followed by any 64 bytes (see `Auth.decode_body`). -/
theorem decode1_body (a : AuthServer) (h : a.WF) (s r : Bytes) (hs : s.length = 64) :
    decode1 (body a ++ (s ++ r)) = some ({ a with sig := s }, r) := by
  obtain ⟨h1, h2, h3, h4, h5, _⟩ := h
  simp +arith [decode1, body, bannedByte, *]

theorem decode1_encode (a : AuthServer) (r : Bytes) (h : a.WF) :
    decode1 (encode a ++ r) = some (a, r) := by
  rw [encode, List.append_assoc, decode1_body a h _ _ h.2.2.2.2.2]

/-- The client runs the loop with the length of the region as fuel: every entry takes at least 104 bytes. -/
theorem decodeList_encodeList {as : List AuthServer} (h : ∀ a ∈ as, a.WF) {fuel : Nat}
    (hf : (encodeList as).length ≤ fuel) : decodeList fuel (encodeList as) = some as := by
  induction as generalizing fuel with
  | nil => cases fuel <;> simp [encodeList, decodeList]
  | cons a as ih =>
    have ha := h a (by simp)
    have hl := encode_length a ha
    rw [encodeList, List.length_append] at hf
    cases fuel with
    | zero => omega
    | succ fuel =>
      have hne := isEmpty_append_of_pos (a := encode a) (by omega) (encodeList as)
      simp only [encodeList, decodeList, hne, decode1_encode a _ ha]
      rw [ih (fun b hb => h b (by simp [hb])) (by omega)]
      simp

end AuthServer

/-- `EquipmentMigration`. -/
structure Migration where
  equipment : Bytes   -- [32]byte
  newGCA    : Bytes   -- [32]byte
  newId     : Nat     -- uint32
  servers   : List AuthServer
  sig       : Bytes   -- [64]byte
deriving DecidableEq, Repr, Inhabited

namespace Migration

def WF (m : Migration) : Prop :=
  m.equipment.length = 32 ∧ m.newGCA.length = 32 ∧ m.newId < 2^32 ∧
  (∀ a ∈ m.servers, a.WF) ∧ m.sig.length = 64

/-- The part of the order that follows the equipment key (this is what the
sync reply carries, the key itself appears earlier in the reply). -/
def tail (m : Migration) : Bytes :=
  m.newGCA ++ (leBytes 4 m.newId ++ AuthServer.encodeList m.servers)

def body (m : Migration) : Bytes := m.equipment ++ tail m
def encode (m : Migration) : Bytes := body m ++ m.sig
def prefixStr : String := "EquipmentMigration"
def signingBytes (m : Migration) : Bytes := ascii prefixStr ++ body m

end Migration

/-- `GCARegistration.SigningBytes`. -/
def Registration.prefixStr : String := "GCARegistration"
def Registration.signingBytes (key : Bytes) : Bytes := ascii Registration.prefixStr ++ key

end Gca
