import Gca.Basic
/-
server/api_device_stats.go: DeviceStats, AllDeviceStats, SigningBytes,
Serialize and DeserializeStreamAllDeviceStats (the weekly-statistics stream in
allDeviceStats.dat). Impact rates are carried as IEEE-754 bit patterns.
-/
namespace Gca

/-- Slots per week. -/
def weekSlots : Nat := 2016

structure Dev where
  key     : Bytes      -- PublicKey [32]byte
  powers  : List Nat   -- [2016]uint64
  impacts : List Nat   -- [2016]float64 as bits
deriving DecidableEq, Repr, Inhabited

structure Week where
  devs : List Dev
  tso  : Nat           -- TimeslotOffset uint32
  sig  : Bytes         -- [64]byte
deriving DecidableEq, Repr, Inhabited

namespace Dev
def WF (d : Dev) : Prop :=
  d.key.length = 32 ∧ d.powers.length = weekSlots ∧ d.impacts.length = weekSlots ∧
  (∀ v ∈ d.powers, v < 256 ^ 8) ∧ (∀ v ∈ d.impacts, v < 256 ^ 8)

def encode (d : Dev) : Bytes := d.key ++ (leWords 8 d.powers ++ leWords 8 d.impacts)

theorem encode_length (d : Dev) (h : d.WF) : (encode d).length = 32 + 16 * weekSlots := by
  obtain ⟨h1, h2, h3, _, _⟩ := h
  simp [encode, h1, h2, h3]; omega

/-- One device of `DeserializeStreamAllDeviceStats` (the per-word length checks
of the Go loop fail exactly when fewer than 8*2016 bytes remain). -/
def decode1 (b : Bytes) : Option (Dev × Bytes) :=
  if b.length < 32 then none else
  let (key, b) := rd 32 b
  if b.length < 8 * weekSlots then none else
  let (ps, b) := rdWords 8 weekSlots b
  if b.length < 8 * weekSlots then none else
  let (is, b) := rdWords 8 weekSlots b
  some (⟨key, ps, is⟩, b)

/-- `decode1` in closed form. Use this and do not unfold `decode1` under `simp`: simp turns
`match rdWords 8 weekSlots _ with | (ps, b) => ..` into projections without a proof, and to check that
step the kernel evaluates `rdWords 8 2016 _` down to a pair, 2016 levels deep and nested twice. Here
`weekSlots` is put behind a variable first; `generalize` would not do, it substitutes the variable back
in the term. -/
theorem decode1_eq (b : Bytes) : decode1 b =
    if b.length < 32 + 16 * weekSlots then none else
    some (⟨b.take 32, (rdWords 8 weekSlots (b.drop 32)).1,
           (rdWords 8 weekSlots (rdWords 8 weekSlots (b.drop 32)).2).1⟩,
          (rdWords 8 weekSlots (rdWords 8 weekSlots (b.drop 32)).2).2) := by
  obtain ⟨n, hn⟩ : ∃ n, weekSlots = n := ⟨_, rfl⟩
  rw [decode1, hn]
  simp only [rd, rdWords_snd_length, List.length_drop]
  split
  · rw [if_pos (by omega)]
  split
  · rw [if_pos (by omega)]
  split
  · rw [if_pos (by omega)]
  rw [if_neg (by omega)]

theorem decode1_encode (d : Dev) (r : Bytes) (h : d.WF) : decode1 (encode d ++ r) = some (d, r) := by
  obtain ⟨h1, h2, h3, h4, h5⟩ := h
  simp +arith [decode1_eq, encode, List.take_left' h1, List.drop_left' h1, rdWords_leWords h2 h4,
    rdWords_leWords h3 h5, h1, h2, h3]

theorem decode1_consumes {b r : Bytes} {d : Dev} (h : decode1 b = some (d, r)) :
    b.length = 32 + 16 * weekSlots + r.length := by
  simp only [decode1_eq, Option.ite_none_left_eq_some, Option.some.injEq, Prod.mk.injEq] at h
  obtain ⟨hl, -, rfl⟩ := h
  simp only [rdWords_snd_length, List.length_drop]
  omega
end Dev

def encodeDevs : List Dev → Bytes
  | [] => []
  | d :: ds => Dev.encode d ++ encodeDevs ds

def decodeDevs : Nat → Bytes → Option (List Dev × Bytes)
  | 0, b => some ([], b)
  | n+1, b => match Dev.decode1 b with
    | none => none
    | some (d, r) => match decodeDevs n r with
      | none => none
      | some (ds, r') => some (d :: ds, r')

theorem decodeDevs_encodeDevs {ds : List Dev} {r : Bytes} (h : ∀ d ∈ ds, d.WF) :
    decodeDevs ds.length (encodeDevs ds ++ r) = some (ds, r) := by
  induction ds with
  | nil => simp [decodeDevs, encodeDevs]
  | cons d ds ih =>
    simp only [List.length_cons, decodeDevs, encodeDevs, List.append_assoc,
      Dev.decode1_encode d _ (h d (by simp)), ih (fun e he => h e (by simp [he]))]

theorem decodeDevs_consumes {n : Nat} {b r : Bytes} {ds : List Dev}
    (h : decodeDevs n b = some (ds, r)) : b.length = (32 + 16 * weekSlots) * n + r.length := by
  induction n generalizing b ds with
  | zero => cases h; simp
  | succ n ih =>
    unfold decodeDevs at h
    split at h
    · cases h
    · rename_i h1
      split at h
      · cases h
      · rename_i h2
        cases h
        have := Dev.decode1_consumes h1
        have := ih h2
        rw [Nat.mul_succ]; omega

namespace Week

def WF (w : Week) : Prop :=
  w.devs.length < 2^32 ∧ (∀ d ∈ w.devs, d.WF) ∧ w.tso < 2^32 ∧ w.sig.length = 64

/-- The signed part: device count, devices, timeslot offset. -/
def body (w : Week) : Bytes :=
  leBytes 4 w.devs.length ++ (encodeDevs w.devs ++ leBytes 4 w.tso)

def prefixStr : String := "AllDeviceStats"
def signingBytes (w : Week) : Bytes := ascii prefixStr ++ body w
def encode (w : Week) : Bytes := body w ++ w.sig

/-- `DeserializeStreamAllDeviceStats`: one record and the rest of the stream. -/
def decode1 (b : Bytes) : Option (Week × Bytes) :=
  if b.length < 4 then none else
  let (n, b) := rd 4 b
  match decodeDevs (unle n) b with
  | none => none
  | some (ds, b) =>
    if b.length < 4 then none else
    let (tso, b) := rd 4 b
    if b.length < 64 then none else
    let (sig, b) := rd 64 b
    some (⟨ds, unle tso, sig⟩, b)

/-- One record is the signed part followed by any 64 bytes (see `Auth.decode_body`). -/
theorem decode1_body (w : Week) (h : w.WF) (s r : Bytes) (hs : s.length = 64) :
    decode1 (body w ++ (s ++ r)) = some ({ w with sig := s }, r) := by
  obtain ⟨h1, h2, h3, _⟩ := h
  simp [decode1, body, decodeDevs_encodeDevs h2, *]

theorem decode1_encode (w : Week) (r : Bytes) (h : w.WF) : decode1 (encode w ++ r) = some (w, r) := by
  rw [encode, List.append_assoc, decode1_body w h _ _ h.2.2.2]

theorem encode_length (w : Week) (h : w.WF) :
    (encode w).length = 72 + (32 + 16 * weekSlots) * w.devs.length := by
  simp +arith [encode, body, h.2.2.2, length_concat (encs := encodeDevs) rfl (fun _ _ => rfl) w.devs
    fun d hd => Dev.encode_length d (h.2.1 d hd)]

/-- A decoded record took exactly the bytes its device count (the first four bytes) announces. -/
theorem decode1_consumes {b r : Bytes} {w : Week} (h : decode1 b = some (w, r)) :
    4 ≤ b.length ∧ b.length = 72 + (32 + 16 * weekSlots) * unle (b.take 4) + r.length := by
  unfold decode1 at h
  simp only [Option.ite_none_left_eq_some] at h
  obtain ⟨h4, h⟩ := h
  split at h
  · cases h
  · rename_i h1
    have := decodeDevs_consumes h1
    simp [rd] at h this
    obtain ⟨h2, h3, -, rfl⟩ := h
    simp only [List.length_drop]
    omega

theorem encode_length_pos (w : Week) : 0 < (encode w).length := by
  simp [encode, body]; omega

end Week

def encodeStream : List Week → Bytes
  | [] => []
  | w :: ws => Week.encode w ++ encodeStream ws

/-- The loading loop of `loadEquipmentHistory`: decode records until the data is
used up; `none` = "unable to decode all device stats". -/
def decodeStream : Nat → Bytes → Option (List Week)
  | 0, b => if b.isEmpty then some [] else none
  | fuel+1, b =>
    if b.isEmpty then some [] else
    match Week.decode1 b with
    | none => none
    | some (w, r) => match decodeStream fuel r with
      | none => none
      | some ws => some (w :: ws)

theorem decodeStream_encodeStream {ws : List Week} (h : ∀ w ∈ ws, w.WF) {fuel : Nat}
    (hf : ws.length ≤ fuel) : decodeStream fuel (encodeStream ws) = some ws := by
  induction ws generalizing fuel with
  | nil => cases fuel <;> simp [encodeStream, decodeStream]
  | cons w ws ih =>
    cases fuel with
    | zero => simp at hf
    | succ fuel =>
      have hne := isEmpty_append_of_pos (Week.encode_length_pos w) (encodeStream ws)
      simp only [encodeStream, decodeStream, hne, Week.decode1_encode w _ (h w (by simp))]
      rw [ih (fun v hv => h v (by simp [hv])) (by simpa using hf)]
      simp

end Gca
