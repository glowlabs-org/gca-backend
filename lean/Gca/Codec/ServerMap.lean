import Gca.Basic
/-
client/gcaserver.go: SerializeGCAServerMap / UntrustedDeserializeGCAServerMap
(gcaServers.dat). The Go map is iterated in arbitrary order; the model encodes
a list of entries (the order the map happened to yield) and decodes to the list
of entries in file order (the Go decoder puts them into a map, later entries
overwriting earlier ones with the same key; the model stops at the list).
-/
namespace Gca

structure CServer where
  banned : Bool
  loc    : Bytes
  http   : Nat
  tcp    : Nat
  udp    : Nat
deriving DecidableEq, Repr, Inhabited

abbrev CEntry := Bytes × CServer

namespace CServer

def WF (e : CEntry) : Prop :=
  e.1.length = 32 ∧ e.2.loc.length < 2^16 ∧ e.2.http < 2^16 ∧ e.2.tcp < 2^16 ∧ e.2.udp < 2^16

instance (e : CEntry) : Decidable (WF e) := by unfold WF; infer_instance

def encode1 (e : CEntry) : Bytes :=
  e.1 ++ ([if e.2.banned then 1 else 0] ++ (leBytes 2 e.2.loc.length ++ (e.2.loc ++
  (leBytes 2 e.2.http ++ (leBytes 2 e.2.tcp ++ leBytes 2 e.2.udp)))))

/-- `SerializeGCAServerMap`: refuses a location longer than 65535 bytes. -/
def encodeMap : List CEntry → Option Bytes
  | [] => some []
  | e :: es =>
    if e.2.loc.length > 0xFFFF then none else
    match encodeMap es with
    | none => none
    | some r => some (encode1 e ++ r)

/-- One entry of `UntrustedDeserializeGCAServerMap`. -/
def decode1 (b : Bytes) : Option (CEntry × Bytes) :=
  if b.length < 32 then none else
  let (key, b) := rd 32 b
  if b.length < 1 then none else
  let (bn, b) := rd 1 b
  if b.length < 2 then none else
  let (ll, b) := rd 2 b
  let n := unle ll
  if b.length < n then none else
  let (loc, b) := rd n b
  if b.length < 6 then none else
  let (http, b) := rd 2 b
  let (tcp, b) := rd 2 b
  let (udp, b) := rd 2 b
  some ((key, ⟨unle bn != 0, loc, unle http, unle tcp, unle udp⟩), b)

def decodeMap : Nat → Bytes → Option (List CEntry)
  | 0, b => if b.isEmpty then some [] else none
  | fuel+1, b =>
    if b.isEmpty then some [] else
    match decode1 b with
    | none => none
    | some (e, r) => match decodeMap fuel r with
      | none => none
      | some es => some (e :: es)

theorem encode1_length {e : CEntry} (h : WF e) : (encode1 e).length = 41 + e.2.loc.length := by
  simp [encode1, h.1]; omega

theorem decode1_encode1 {e : CEntry} {r : Bytes} (h : WF e) : decode1 (encode1 e ++ r) = some (e, r) := by
  obtain ⟨h1, h2, h3, h4, h5⟩ := h
  simp +arith [decode1, encode1, *]

/-- Every list of well-formed entries is encodable, and its bytes decode back with their length (or more) as
fuel: every entry takes at least 41 bytes. -/
theorem encodeMap_some {es : List CEntry} (h : ∀ e ∈ es, WF e) :
    ∃ b, encodeMap es = some b ∧ ∀ fuel, b.length ≤ fuel → decodeMap fuel b = some es := by
  induction es with
  | nil => exact ⟨[], rfl, fun fuel _ => by cases fuel <;> simp [decodeMap]⟩
  | cons e es ih =>
    obtain ⟨b, hb, hdec⟩ := ih (fun x hx => h x (by simp [hx]))
    have he := h e (by simp)
    have hl := encode1_length he
    refine ⟨encode1 e ++ b, ?_, fun fuel hf => ?_⟩
    · have : ¬ e.2.loc.length > 0xFFFF := by have := he.2.1; omega
      simp [encodeMap, this, hb]
    · rw [List.length_append] at hf
      cases fuel with
      | zero => omega
      | succ fuel =>
        have hne := isEmpty_append_of_pos (a := encode1 e) (by omega) b
        simp only [decodeMap, hne, decode1_encode1 he]
        rw [hdec fuel (by omega)]
        simp

end CServer
end Gca
