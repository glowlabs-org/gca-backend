import Gca.Basic
/-
glow/report.go: EquipmentReport, Serialize, DeserializeReport, SigningBytes.
-/
namespace Gca

structure Report where
  id  : Nat      -- ShortID   uint32
  ts  : Nat      -- Timeslot  uint32
  p   : Nat      -- PowerOutput uint64
  sig : Bytes    -- Signature [64]byte
deriving DecidableEq, Repr, Inhabited

namespace Report

/-- Go zero value of the struct (an empty slot). -/
def zero : Report := ⟨0, 0, 0, zeros 64⟩

/-- Values representable by the Go struct. -/
def WF (r : Report) : Prop :=
  r.id < 2^32 ∧ r.ts < 2^32 ∧ r.p < 2^64 ∧ r.sig.length = 64

instance (r : Report) : Decidable r.WF := by unfold WF; infer_instance

/-- `EquipmentReport.Serialize`: 80 bytes. -/
def encode (r : Report) : Bytes :=
  leBytes 4 r.id ++ (leBytes 4 r.ts ++ (leBytes 8 r.p ++ r.sig))

/-- `DeserializeReport`: refuses anything but 80 bytes. -/
def decode (b : Bytes) : Option Report :=
  if b.length ≠ 80 then none else
  some ⟨unle (b.take 4), unle ((b.drop 4).take 4), unle ((b.drop 8).take 8), b.drop 16⟩

/-- `EquipmentReport.SigningBytes`: ASCII prefix, then id, timeslot, power. -/
def prefixStr : String := "EquipmentReport"
def signingBytes (r : Report) : Bytes :=
  ascii prefixStr ++ (leBytes 4 r.id ++ (leBytes 4 r.ts ++ leBytes 8 r.p))

theorem encode_length (r : Report) (h : r.sig.length = 64) : (encode r).length = 80 := by
  simp [encode, h]

/-- The decoder inverts the signed fields followed by any 64 bytes: the round trip is the case `s = r.sig`,
and the signed fields alone determine `id`, `ts` and `p` (C15). The other codecs have this as `decode_body`
or `decode1_body`, about their `body`. -/
theorem decode_body (r : Report) (h : r.WF) (s : Bytes) (hs : s.length = 64) :
    decode ((leBytes 4 r.id ++ (leBytes 4 r.ts ++ leBytes 8 r.p)) ++ s) = some { r with sig := s } := by
  obtain ⟨h1, h2, h3, _⟩ := h
  simp [decode, List.drop_append, List.drop_eq_nil_of_le, *]

theorem decode_encode (r : Report) (h : r.WF) : decode (encode r) = some r := by
  simpa [encode] using decode_body r h r.sig h.2.2.2

theorem decode_eq_some {b : Bytes} {r : Report} : decode b = some r ↔ b.length = 80 ∧
    r = ⟨unle (b.take 4), unle ((b.drop 4).take 4), unle ((b.drop 8).take 8), b.drop 16⟩ := by
  simp [decode, eq_comm]

theorem decode_wf {b : Bytes} {r : Report} (h : decode b = some r) : r.WF := by
  obtain ⟨hl, rfl⟩ := decode_eq_some.1 h
  exact ⟨unle_take_lt 4 _, unle_take_lt 4 _, unle_take_lt 8 _, by simp [hl]⟩

end Report
end Gca
