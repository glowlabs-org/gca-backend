/-
Finite maps as association lists (Go maps). Reasoning goes through `get`: `set`, `del` and a
key-preserving `List.map` are characterised by how they change `get`, so iteration order is not
observable. The exceptions come last: the list of keys, written `m.map (·.1)` as the server's invariant writes it
(`keys` names it and is not used), whose `Nodup` is part of that invariant, and `List.map` over the entries after
a `set` (the weekly statistics list the devices in map order).
-/
namespace Gca

abbrev FMap (κ : Type) (α : Type) := List (κ × α)

namespace FMap
variable {κ : Type} [DecidableEq κ] {α : Type}

def get (m : FMap κ α) (k : κ) : Option α :=
  match m with
  | [] => none
  | (k', v) :: r => if k' = k then some v else get r k

def has (m : FMap κ α) (k : κ) : Bool := (get m k).isSome

def del (m : FMap κ α) (k : κ) : FMap κ α :=
  match m with
  | [] => []
  | (k', v) :: r => if k' = k then del r k else (k', v) :: del r k

/-- Replace in place if present (keeps the position), else append. -/
def set (m : FMap κ α) (k : κ) (v : α) : FMap κ α :=
  match m with
  | [] => [(k, v)]
  | (k', v') :: r => if k' = k then (k, v) :: r else (k', v') :: set r k v

def keys (m : FMap κ α) : List κ := m.map (·.1)

@[simp] theorem get_nil (k : κ) : get ([] : FMap κ α) k = none := rfl

theorem get_set_same {m : FMap κ α} {k : κ} {v : α} : get (set m k v) k = some v := by
  induction m with
  | nil => exact if_pos rfl
  | cons p r ih =>
    unfold set
    split
    · exact if_pos rfl
    · exact (if_neg ‹_›).trans ih

theorem get_set_ne {m : FMap κ α} {k k2 : κ} {v : α} (h : k ≠ k2) : get (set m k v) k2 = get m k2 := by
  induction m with
  | nil => exact if_neg h
  | cons p r ih =>
    obtain ⟨k', v'⟩ := p
    unfold set
    split
    · subst ‹k' = k›; exact (if_neg h).trans (if_neg h).symm
    · unfold get; rw [ih]

theorem get_del_same {m : FMap κ α} {k : κ} : get (del m k) k = none := by
  induction m with
  | nil => rfl
  | cons p r ih =>
    unfold del
    split
    · exact ih
    · exact (if_neg ‹_›).trans ih

theorem get_del_ne {m : FMap κ α} {k k2 : κ} (h : k ≠ k2) : get (del m k) k2 = get m k2 := by
  induction m with
  | nil => rfl
  | cons p r ih =>
    obtain ⟨k', v'⟩ := p
    unfold del
    split
    · subst ‹k' = k›; exact ih.trans (if_neg h).symm
    · unfold get; rw [ih]

theorem get_some_mem {m : FMap κ α} {k : κ} {v : α} (h : get m k = some v) : (k, v) ∈ m := by
  induction m with
  | nil => simp at h
  | cons p r ih =>
    obtain ⟨k', v'⟩ := p
    by_cases h1 : k' = k
    · simp [get, h1] at h; simp [h1, h]
    · simp [get, h1] at h; simp [ih h]

theorem has_eq_isSome (m : FMap κ α) (k : κ) : has m k = (get m k).isSome := rfl

theorem get_map_val {β : Type} (m : FMap κ α) (f : α → β) (k : κ) :
    get (m.map (fun p => (p.1, f p.2)) : FMap κ β) k = (get m k).map f := by
  induction m with
  | nil => rfl
  | cons p r ih =>
    obtain ⟨k', v'⟩ := p
    by_cases h : k' = k <;> simp [get, h, ih]

theorem get_set_map_same {β : Type} {m : FMap κ α} {k : κ} {v v' : α} {f : α → β} (hg : get m k = some v)
    (hf : f v' = f v) (k2 : κ) : (get (set m k v') k2).map f = (get m k2).map f := by
  by_cases e : k = k2
  · subst e; rw [get_set_same, hg, Option.map_some, Option.map_some, hf]
  · rw [get_set_ne e]

/-- A map that differs from `m` at `k` only, where it holds `f k` of `m`'s value, is `m` with `f` applied at every
key, `f` being the identity off `k`. -/
theorem get_eq_map_at {m m' : FMap κ α} {k : κ} {v : α} (f : κ → α → α) (hg : get m k = some v)
    (h1 : get m' k = some (f k v)) (h2 : ∀ k2, k ≠ k2 → get m' k2 = get m k2) (hf : ∀ k2 x, k ≠ k2 → f k2 x = x)
    (k2 : κ) : get m' k2 = (get m k2).map (f k2) := by
  by_cases e : k = k2
  · subst e; rw [h1, hg, Option.map_some]
  · rw [h2 k2 e]
    cases get m k2 with
    | none => rfl
    | some x => rw [Option.map_some, hf k2 x e]

theorem mem_keys_iff (m : FMap κ α) (k : κ) : k ∈ m.map (·.1) ↔ (get m k).isSome = true := by
  induction m with
  | nil => simp
  | cons p r ih =>
    obtain ⟨k', v'⟩ := p
    by_cases h : k' = k
    · simp [get, h]
    · have h' : ¬ k = k' := fun e => h e.symm
      simp [get, h, h', ih]

theorem nodup_set {m : FMap κ α} {k : κ} {v : α} (h : (m.map (·.1)).Nodup) :
    ((set m k v).map (·.1)).Nodup := by
  induction m with
  | nil => exact List.nodup_cons.mpr ⟨List.not_mem_nil, .nil⟩
  | cons p r ih =>
    obtain ⟨k', v'⟩ := p
    obtain ⟨h1, h2⟩ := List.nodup_cons.mp h
    unfold set
    split
    · subst ‹k' = k›; exact h
    · refine List.nodup_cons.mpr ⟨fun hm => h1 ?_, ih h2⟩
      rwa [mem_keys_iff, get_set_ne (Ne.symm ‹_›), ← mem_keys_iff] at hm

theorem del_sublist (m : FMap κ α) (k : κ) : (del m k).Sublist m := by
  induction m with
  | nil => exact .slnil
  | cons p r ih =>
    unfold del
    split
    · exact ih.cons _
    · exact ih.cons_cons _

theorem nodup_del {m : FMap κ α} {k : κ} (h : (m.map (·.1)).Nodup) :
    ((del m k).map (·.1)).Nodup :=
  h.sublist ((del_sublist m k).map _)

theorem get_of_mem_nodup {m : FMap κ α} {k : κ} {v : α} (hn : (m.map (·.1)).Nodup)
    (h : (k, v) ∈ m) : get m k = some v := by
  induction m with
  | nil => cases h
  | cons p r ih =>
    obtain ⟨k', v'⟩ := p
    obtain ⟨h1, h2⟩ := List.nodup_cons.mp hn
    rcases List.mem_cons.mp h with e | h
    · cases e; exact if_pos rfl
    · exact (if_neg fun e : k' = k => h1 (e ▸ List.mem_map.mpr ⟨_, h, rfl⟩)).trans (ih h2 h)

theorem set_map_val {β : Type} (m : FMap κ α) (f : α → β) (k : κ) (v : α) :
    ((set m k v).map (fun p => (p.1, f p.2)) : FMap κ β) =
      set (m.map (fun p => (p.1, f p.2)) : FMap κ β) k (f v) := by
  induction m with
  | nil => rfl
  | cons p r ih =>
    obtain ⟨k', v'⟩ := p
    by_cases h : k' = k <;> simp [set, h, ih]

theorem map_set_same {β : Type} {m : FMap κ α} {g : α → β} {k : κ} {v v' : α}
    (hg : get m k = some v) (he : g v' = g v) :
    (set m k v').map (fun p => g p.2) = m.map (fun p => g p.2) := by
  induction m with
  | nil => simp at hg
  | cons p r ih =>
    obtain ⟨k', v0⟩ := p
    by_cases h : k' = k
    · simp [get, h] at hg
      simp [set, h, hg, he]
    · simp [get, h] at hg
      simp [set, h, ih hg]

end FMap
end Gca
