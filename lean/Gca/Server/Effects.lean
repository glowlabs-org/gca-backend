import Gca.Server.Ops
/-
Rules for the three loops of start-up - the replay of the authorization file (a `List.foldl` of `replayAuth`),
`replayReports`, `catchUp` - each of the form "what every iteration keeps, the loop keeps", each followed by the
frame of its loop as an instance. And `Eff`, the handful of state changes an operation can make, with `step_eff`,
the one case analysis of `step`, and `run_rule`, the induction along `run`: a property of all reachable states is
proved by one `cases` on `Eff`. The restart case of that `cases` is a start-up, for which `load_rule`
(Gca/Server/Load.lean) puts the three loop rules together.
-/
namespace Gca.Srv

theorem foldl_replayAuth_rule {P : State → Prop} {cfg : Cfg} (l : List Auth)
    (hstep : ∀ x, ∀ a ∈ l, ∀ x', P x → AuthEff cfg x a x' → P x') {s : State} (h : P s) :
    P (l.foldl (replayAuth cfg) s) := by
  refine List.foldlRecOn l _ h fun x hx a ha => ?_
  rcases replayAuth_cases cfg x a with e | e
  · rw [e]; exact hx
  · exact hstep x a ha _ hx e

theorem foldl_replayAuth_frame (cfg : Cfg) (l : List Auth) (s : State) :
    ∃ dv sh bn ra, l.foldl (replayAuth cfg) s = { s with devices := dv, shortIds := sh, bans := bn, recentA := ra } := by
  refine foldl_replayAuth_rule l
    (P := fun x => ∃ dv sh bn ra, x = { s with devices := dv, shortIds := sh, bans := bn, recentA := ra })
    (fun x a _ x' hx e => ?_) ⟨_, _, _, _, rfl⟩
  obtain ⟨_, _, _, _, rfl⟩ := hx
  obtain ⟨_, _, _, _, rfl⟩ := e.frame
  exact ⟨_, _, _, _, rfl⟩

theorem foldl_replayAuth_dev {cfg : Cfg} {l : List Auth} {s : State} {id : Nat} {d : Dev}
    (h : (l.foldl (replayAuth cfg) s).devices.get id = some d) :
    s.devices.get id = some d ∨ ∃ a ∈ l, d = newDev a := by
  revert id d
  refine foldl_replayAuth_rule l
    (P := fun x => ∀ {id d}, x.devices.get id = some d → s.devices.get id = some d ∨ ∃ a ∈ l, d = newDev a)
    (fun x a ha x' hx e id d hd => ?_) Or.inl
  by_cases hid : a.id = id
  · subst hid
    rcases e.get_same with g | g <;> rw [g] at hd <;> cases hd
    exact Or.inr ⟨a, ha, rfl⟩
  · rw [e.get_ne hid] at hd; exact hx hd

theorem replayReports_rule {P : State → Prop} {cfg : Cfg} {V : Verify} {rs : List Report} {s s' : State}
    (hstep : ∀ x r x' b, P x → integrate cfg x r = some (x', b) → P x')
    (h : P s) (hr : replayReports cfg V s rs = some s') : P s' := by
  induction rs generalizing s with
  | nil => cases hr; exact h
  | cons r t ih =>
    unfold replayReports at hr
    -- a record of a banned id is skipped; an unknown device, a bad signature or a panic of `integrate` end the start
    split at hr
    · exact ih h hr
    · split at hr
      · cases hr
      · split at hr
        · cases hr
        · split at hr
          · cases hr
          · exact ih (hstep _ _ _ _ h (by assumption)) hr

theorem replayReports_frame {cfg : Cfg} {V : Verify} {rs : List Report} {s s' : State}
    (h : replayReports cfg V s rs = some s') :
    ∃ dv rr rp, s' = { s with devices := dv, recentR := rr, disk := { s.disk with reports := rp } } := by
  refine replayReports_rule
    (P := fun x => ∃ dv rr rp, x = { s with devices := dv, recentR := rr, disk := { s.disk with reports := rp } })
    ?_ ⟨_, _, _, rfl⟩ h
  rintro x r x' b ⟨_, _, _, rfl⟩ hi
  obtain ⟨_, _, _, rfl⟩ := integrate_frame hi
  exact ⟨_, _, _, rfl⟩

/-- What every rotation keeps, the catch-up loop keeps; if no rotation fails, it does not fail. -/
theorem catchUp_rule {P : State → Prop} {Q : Out → Prop} (sgn : Bytes → Bytes) (now : Nat) (hQ : Q .ok)
    (hrot : ∀ x, P x → P (rotate sgn x).1 ∧ Q (rotate sgn x).2) (fuel : Nat) (s : State) (h : P s) :
    P (catchUp sgn now fuel s).1 ∧ Q (catchUp sgn now fuel s).2 := by
  induction fuel generalizing s with
  | zero => exact ⟨h, hQ⟩
  | succ n ih =>
    unfold catchUp
    split
    · exact ⟨h, hQ⟩
    · have hr := hrot s h
      split
      · rename_i s' e; rw [e] at hr; exact ih s' hr.1
      · rename_i s' o _ e; rw [e] at hr; exact hr

theorem catchUp_frame (sgn : Bytes → Bytes) (now fuel : Nat) (s : State) :
    ∃ ws dv, dv.map (·.1) = s.devices.map (·.1) ∧
      (catchUp sgn now fuel s).1 =
        { s with history := s.history ++ ws, disk := { s.disk with weeks := s.disk.weeks ++ ws },
                 devices := dv, off := s.off + week * ws.length } := by
  refine (catchUp_rule (Q := fun _ => True) (P := fun x => ∃ ws dv, dv.map (·.1) = s.devices.map (·.1) ∧ x =
    { s with history := s.history ++ ws, disk := { s.disk with weeks := s.disk.weeks ++ ws },
             devices := dv, off := s.off + week * ws.length }) sgn now trivial ?_ fuel s
    ⟨[], s.devices, rfl, by simp⟩).1
  rintro x ⟨ws, dv, hdv, hx⟩
  refine ⟨?_, trivial⟩
  rcases rotate_cases sgn x with h | ⟨w, _, h⟩ <;> rw [h]
  · exact ⟨ws, dv, hdv, hx⟩
  · refine ⟨ws ++ [w], dv.map (fun p => (p.1, shiftDev p.2)), ?_, ?_⟩
    · rw [← hdv, List.map_map]; rfl
    · simp only [hx, List.append_assoc, List.length_append, List.length_cons, List.length_nil, Nat.mul_add,
        Nat.mul_one, Nat.zero_add, Nat.add_assoc]

/-- The state changes an operation can make; `step_eff` says that every step is one of them. The relation is an upper
bound, made for showing that something is KEPT, and not the graph of `step`: `same` and `rotate` are offered for every
operation (`rotate` comes from `Op.rotate` and `Op.tick`), `migs` does not say that the order was signed, `servers`
gives the new list only as what `authServer` returns, `restart` only that `load` succeeded. What an operation does
exactly, for a property like "X changes only when signed", is in `register_eq`, `authorize_eq`, `authServer_cases`,
`migrateOrder_eq`; what a start yields, in `load_rule` and `load_reads`. `auth` is the memory effect `AuthEff` with
the record appended to the authorization file; its last hypothesis records that the live path found a conflict by
Go's struct comparison, where the replay will compare the serialized records. -/
inductive Eff (cfg : Cfg) (V : Verify) (sgn : Bytes → Bytes) (s : State) : Op → State → Prop
  | same {op} : Eff cfg V sgn s op s
  | report {now : Nat} {b r s'} : admitted V s now b = some r → integrate cfg s r = some (s', true) →
      Eff cfg V sgn s (.dgram now b) s'
  | register {key sig} : s.gcaAvail = false → V s.tempKey (Registration.signingBytes key) sig = true →
      Eff cfg V sgn s (.register key sig)
        { s with gcaKey := key, gcaAvail := true, disk := { s.disk with gcaKey := some key } }
  | auth {a s'} : s.gcaAvail = true → V s.gcaKey (Auth.signingBytes a) a.sig = true → AuthEff cfg s a s' →
      (∀ cur, s.devices.get a.id = some cur → authEq cur.auth a = false) →
      Eff cfg V sgn s (.authorize a) { s' with disk := { s.disk with auths := s.disk.auths ++ [a] } }
  | rotate {op w} : buildStats sgn s s.off = some w →
      Eff cfg V sgn s op { s with history := s.history ++ [w],
                                  disk := { s.disk with weeks := s.disk.weeks ++ [w] },
                                  devices := s.devices.map (fun p => (p.1, shiftDev p.2)),
                                  off := s.off + week }
  | restart {fresh now s'} : load cfg V sgn s.disk s.tempKey fresh now = some s' →
      Eff cfg V sgn s (.restart fresh now) s'
  | servers {a l} : (authServer V s a).1.servers = l → Eff cfg V sgn s (.authServer a) { s with servers := l }
  | migs {m} : Eff cfg V sgn s (.migrate m) { s with migs := s.migs.set m.equipment m }
  | impact {id ts rate d} : s.devices.get id = some d → s.off ≤ ts ∧ ts - s.off < window →
      Eff cfg V sgn s (.impact id ts rate)
        { s with devices := s.devices.set id { d with impact := d.impact.set (ts - s.off) rate } }

theorem rotate_eff (cfg : Cfg) (V : Verify) (sgn : Bytes → Bytes) (s : State) {op : Op} :
    Eff cfg V sgn s op (rotate sgn s).1 := by
  rcases rotate_cases sgn s with h | ⟨w, hw, h⟩ <;> rw [h]
  · exact .same
  · exact .rotate hw

theorem step_eff (cfg : Cfg) (V : Verify) (sgn : Bytes → Bytes) (s : State) (op : Op) :
    Eff cfg V sgn s op (step cfg V sgn s op).1 := by
  cases op with
  | dgram now b =>
    show Eff cfg V sgn s _ (dgram cfg V s now b).1
    rcases dgram_cases cfg V s now b with h | ⟨r, ha, hi⟩
    · rw [h]; exact .same
    · exact .report ha hi
  | register key sig =>
    show Eff cfg V sgn s _ (register V s key sig).1
    rw [register_eq]
    split
    · rename_i h; exact .register h.1 h.2
    · exact .same
  | authorize a =>
    show Eff cfg V sgn s _ (authorize cfg V s a).1
    rw [authorize_eq]
    split
    · rename_i hg
      rcases saveEquipment_cases cfg s a with e | e | ⟨cur, hb, hc, hne, e⟩ | ⟨hb, hc, hk, e⟩ <;> rw [e]
      · exact .same
      · exact .same
      · exact .auth hg.1 hg.2 (.conflict hb hc) fun cur' hc' => Option.some.inj (hc.symm.trans hc') ▸ hne
      · exact .auth hg.1 hg.2 (.new hb hc hk) fun cur hc' => nomatch hc.symm.trans hc'
    · exact .same
  | rotate => exact rotate_eff cfg V sgn s
  | tick now =>
    show Eff cfg V sgn s _ (tick sgn s now).1
    unfold tick
    split
    · exact rotate_eff cfg V sgn s
    · exact .same
  | restart fresh now =>
    rw [step_restart]
    cases hl : load cfg V sgn s.disk s.tempKey fresh now with
    | none => exact .same
    | some s' => exact .restart hl
  | stats tso => exact .same
  | sync id => exact .same
  | authServer a =>
    obtain ⟨l, _, h, _⟩ := authServer_cases V s a
    show Eff cfg V sgn s _ (authServer V s a).1
    rw [h]; exact .servers (by rw [h])
  | migrate m =>
    show Eff cfg V sgn s _ (migrateOrder V s m).1
    rw [migrateOrder_eq]
    split
    · exact .migs
    · exact .same
  | impact id ts rate =>
    show Eff cfg V sgn s _ (impactWrite s id ts rate)
    unfold impactWrite
    cases hd : s.devices.get id with
    | none => exact .same
    | some d =>
      dsimp only
      split
      · exact .impact hd ‹_›
      · exact .same

theorem run_rule {P : State → Prop} {cfg : Cfg} {V : Verify} {sgn : Bytes → Bytes} {ops : List Op}
    (hstep : ∀ s s', ∀ op ∈ ops, P s → Eff cfg V sgn s op s' → P s') {s : State} (h : P s) :
    P (run cfg V sgn s ops).1 := by
  induction ops generalizing s with
  | nil => exact h
  | cons op t ih =>
    exact ih (fun s s' o ho => hstep s s' o (List.mem_cons_of_mem _ ho))
      (hstep _ _ op List.mem_cons_self h (step_eff cfg V sgn s op))

end Gca.Srv
