import Gca.Server.Inv
/-
What the two logs say, and that memory says the same: the layer under `Sync` (Gca/Props/C04.lean), which it does
not mention.
 * `aobs`: the authorization observables; `AObs.step` is the replay `replayAuth` on them, and the live
   path `saveEquipment` acts on them alike because it does to memory what the replay will do
   (`AuthEff.replay` in `Gca/Server/Ops.lean`);
 * `slotOf`: what the per-slot rule makes of the report records for one slot;
 * `Mirrors V al rl s`: the memory of `s` is what the authorization records `al` and the report
   records `rl` say. The lists are parameters and not the files of `s`, because during a start the
   files are ahead of memory: the replay walks along them, `Mirrors` holds of the part read so far,
   and one report is taken in by the lemma that serves the running server (`Mirrors.integrate`).
-/
namespace Gca.Srv
open FMap

/-- What the two authorization paths must agree on: authorization per id, key
index, banned ids. -/
structure AObs where
  auth  : Nat → Option Auth
  short : Key → Option Nat
  ban   : Nat → Bool

def aobs (s : State) : AObs :=
  ⟨fun id => (s.devices.get id).map (·.auth), fun k => s.shortIds.get k, fun id => s.bans.contains id⟩

def AObs.empty : AObs := ⟨fun _ => none, fun _ => none, fun _ => false⟩

/-- One record of the authorization file, on observables. -/
def AObs.step (o : AObs) (a : Auth) : AObs :=
  if o.ban a.id then o else
  match o.auth a.id with
  | some cur =>
    if Auth.encode cur = Auth.encode a then o else
    ⟨fun id => if a.id = id then none else o.auth id,
     fun k => if cur.key = k then none else o.short k,
     fun id => o.ban id || decide (id = a.id)⟩
  | none =>
    if (o.short a.key).isSome then o else
    ⟨fun id => if a.id = id then some a else o.auth id,
     fun k => if a.key = k then some a.id else o.short k,
     o.ban⟩

theorem aobs_eq_iff (r m : State) :
    aobs r = aobs m ↔
      (∀ id, (r.devices.get id).map (·.auth) = (m.devices.get id).map (·.auth)) ∧
      (∀ k, r.shortIds.get k = m.shortIds.get k) ∧ (∀ id, id ∈ r.bans ↔ id ∈ m.bans) := by
  simp only [aobs, AObs.mk.injEq, funext_iff]
  refine and_congr_right fun _ => and_congr_right fun _ => forall_congr' fun id => ?_
  rw [Bool.eq_iff_iff, List.contains_iff_mem, List.contains_iff_mem]

theorem aobs_banDevice (s : State) (id : Nat) (cur : Auth) :
    aobs (banDevice s id cur) =
      ⟨fun i => if id = i then none else (aobs s).auth i,
       fun k => if cur.key = k then none else (aobs s).short k,
       fun i => (aobs s).ban i || decide (i = id)⟩ := by
  simp only [aobs, banDevice, AObs.mk.injEq]
  refine ⟨funext fun i => ?_, funext fun k => ?_, funext fun i => ?_⟩
  · by_cases e : id = i
    · subst e; simp [get_del_same]
    · simp [e, get_del_ne e]
  · by_cases e : cur.key = k
    · subst e; simp [get_del_same]
    · simp [e, get_del_ne e]
  · simp [List.contains_eq_mem]

theorem aobs_replayAuth (cfg : Cfg) (s : State) (a : Auth) :
    aobs (replayAuth cfg s a) = (aobs s).step a := by
  unfold replayAuth AObs.step
  have hb : (aobs s).ban a.id = s.bans.contains a.id := rfl
  have ha : (aobs s).auth a.id = (s.devices.get a.id).map (·.auth) := rfl
  have hs : (aobs s).short a.key = s.shortIds.get a.key := rfl
  rw [hb, ha, hs]
  by_cases hbn : s.bans.contains a.id = true
  · rw [if_pos hbn, if_pos hbn]
  rw [if_neg hbn, if_neg hbn]
  cases hd : s.devices.get a.id with
  | some cur =>
    simp only [Option.map_some]
    by_cases he : Auth.encode cur.auth = Auth.encode a
    · rw [if_pos he, if_pos he]
    · rw [if_neg he, if_neg he, aobs_banDevice]; rfl
  | none =>
    simp only [Option.map_none]
    rw [has_eq_isSome]
    by_cases hk : (s.shortIds.get a.key).isSome = true
    · rw [if_pos hk, if_pos hk]
    · rw [if_neg hk, if_neg hk]
      simp only [aobs, AObs.mk.injEq]
      refine ⟨funext fun i => ?_, funext fun k => ?_, trivial⟩
      · by_cases e : a.id = i
        · subst e; simp [get_set_same, newDev]
        · simp [e, get_set_ne e]
      · by_cases e : a.key = k
        · subst e; simp [get_set_same]
        · simp [e, get_set_ne e]

theorem aobs_foldl (cfg : Cfg) (l : List Auth) (s : State) :
    aobs (l.foldl (replayAuth cfg) s) = l.foldl AObs.step (aobs s) := by
  induction l generalizing s with
  | nil => rfl
  | cons a t ih => rw [List.foldl_cons, List.foldl_cons, ih, aobs_replayAuth]

/-- Everything `integrate` and `replayReports` leave alone. -/
structure RFrame (s s' : State) : Prop where
  gcaKey   : s'.gcaKey = s.gcaKey
  gcaAvail : s'.gcaAvail = s.gcaAvail
  srvPub   : s'.srvPub = s.srvPub
  shortIds : s'.shortIds = s.shortIds
  bans     : s'.bans = s.bans
  off      : s'.off = s.off
  history  : s'.history = s.history
  srvKeys  : s'.disk.srvKeys = s.disk.srvKeys
  dGca     : s'.disk.gcaKey = s.disk.gcaKey
  auths    : s'.disk.auths = s.disk.auths
  weeks    : s'.disk.weeks = s.disk.weeks

/-- What the per-slot rule makes of the records `rl` for slot `ts` of device `id`, from an empty slot. -/
def slotOf (cap : Nat) (rl : List Report) (id ts : Nat) : Report :=
  (rl.filter (fun r => r.id = id ∧ r.ts = ts)).foldl (slotStep cap) Report.zero

theorem slotOf_append (cap : Nat) (l1 l2 : List Report) (id ts : Nat) :
    slotOf cap (l1 ++ l2) id ts =
      (l2.filter (fun r => r.id = id ∧ r.ts = ts)).foldl (slotStep cap) (slotOf cap l1 id ts) := by
  unfold slotOf
  rw [List.filter_append, List.foldl_append]

theorem slotOf_snoc (cap : Nat) (l : List Report) (r : Report) (id ts : Nat) :
    slotOf cap (l ++ [r]) id ts =
      if r.id = id ∧ r.ts = ts then slotStep cap (slotOf cap l id ts) r else slotOf cap l id ts := by
  rw [slotOf_append]
  by_cases h : r.id = id ∧ r.ts = ts
  · rw [if_pos h, List.filter_cons_of_pos (by simpa using h)]; rfl
  · rw [if_neg h, List.filter_cons_of_neg (by simpa using h)]; rfl

theorem slotOf_eq_zero {cap : Nat} {rl : List Report} {id ts : Nat} (h : ∀ r ∈ rl, r.id = id → r.ts ≠ ts) :
    slotOf cap rl id ts = Report.zero := by
  unfold slotOf
  rw [List.filter_eq_nil_iff.mpr fun r hr hp => h r hr (of_decide_eq_true hp).1 (of_decide_eq_true hp).2]
  rfl

theorem slotOf_absorb {cap : Nat} {rl again : List Report} {id : Nat} {ts : Nat}
    (hv : ∀ x ∈ rl, x.id = id → ValidP x) (hsub : ∀ x ∈ again, x ∈ rl) :
    slotOf cap (rl ++ again) id ts = slotOf cap rl id ts := by
  rw [slotOf_append]
  refine foldl_slotStep_eq_self fun y hy => ?_
  obtain ⟨hy1, hy2⟩ := List.mem_filter.mp hy
  exact slotStep_absorb cap _ y (hv y (hsub y hy1) (of_decide_eq_true hy2).1)
    (List.mem_filter.mpr ⟨hsub y hy1, hy2⟩)

/-- The window of device `d`, stored under `id` and starting at slot `off`, holds what the records `rl` say. -/
def Slots (rl : List Report) (off id : Nat) (d : Dev) : Prop :=
  ∀ i, i < window → d.reports[i]? = some (slotOf d.auth.cap rl id (off + i))

theorem Slots.snoc {rl : List Report} {off id : Nat} {d : Dev} (h : Slots rl off id d) (r : Report) :
    Slots (rl ++ [r]) off id (devAct off id (some r) d) := by
  intro i hlt
  rw [devAct_slot, h i hlt, devAct_auth, slotOf_snoc, Option.filter_some, Option.map_some]
  by_cases e : r.id = id ∧ r.ts = off + i <;> simp [e, hlt]

theorem Slots.absorb {rl again : List Report} {off id : Nat} {d : Dev} (h : Slots rl off id d)
    (hv : ∀ x ∈ rl, x.id = id → ValidP x) (hsub : ∀ x ∈ again, x ∈ rl) : Slots (rl ++ again) off id d := by
  intro i hlt
  rw [h i hlt, slotOf_absorb hv hsub]

theorem Slots.blank {rl : List Report} {off id : Nat} {d : Dev} (hd : d.reports = blankReports)
    (h : ∀ r ∈ rl, r.id ≠ id) : Slots rl off id d := by
  intro i hlt
  rw [hd, slotOf_eq_zero fun r hr e => absurd e (h r hr)]
  simp [blankReports, hlt]

/-- A rotation re-indexes the window: its second week becomes the first, and no record on file lies in the new
second week, because every record lies below the old end of the window. -/
theorem Slots.shift {rl : List Report} {off id : Nat} {d : Dev} (h : Slots rl off id d)
    (hl : d.reports.length = window) (hb : ∀ r ∈ rl, r.id = id → r.ts < off + window) :
    Slots rl (off + week) id (shiftDev d) := by
  intro i hlt
  show (shiftList Report.zero d.reports)[i]? = some (slotOf d.auth.cap rl id (off + week + i))
  by_cases hlo : i < week
  · rw [shiftList_lo hl hlo, h (i + week) (Nat.add_lt_add_right hlo week), Nat.add_assoc, Nat.add_comm week]
  · rw [shiftList_hi hl (Nat.not_lt.mp hlo) hlt, slotOf_eq_zero]
    intro r hr e1 e2
    exact Nat.not_le.mpr (hb r hr e1)
      (e2 ▸ Nat.add_assoc off week i ▸ Nat.add_le_add_left (Nat.add_le_add_left (Nat.not_lt.mp hlo) week) off)

theorem Slots.reports_eq {rl : List Report} {off id : Nat} {d d' : Dev} (h : Slots rl off id d)
    (h' : Slots rl off id d') (ha : d'.auth = d.auth) (hl : d.reports.length = window)
    (hl' : d'.reports.length = window) : d'.reports = d.reports := by
  apply List.ext_getElem?
  intro i
  by_cases hlt : i < window
  · rw [h i hlt, h' i hlt, ha]
  · rw [List.getElem?_eq_none (hl' ▸ Nat.not_lt.mp hlt), List.getElem?_eq_none (hl ▸ Nat.not_lt.mp hlt)]

/-- Every record of `rs` whose id is not banned belongs to a device that signed it, carries a power that is
no sentinel, and lies below the end of the window. -/
def RepOk (V : Verify) (s : State) (rs : List Report) : Prop :=
  ∀ r ∈ rs, r.id ∉ s.bans → ∃ d, s.devices.get r.id = some d ∧
    V d.auth.key (Report.signingBytes r) r.sig = true ∧ ValidP r ∧ r.ts < s.off + window

theorem RepOk.append {V : Verify} {s : State} {l1 l2 : List Report} (h1 : RepOk V s l1) (h2 : RepOk V s l2) :
    RepOk V s (l1 ++ l2) :=
  fun r hr => (List.mem_append.mp hr).elim (h1 r) (h2 r)

theorem RepOk.of_obs {V : Verify} {s s' : State} {rs : List Report} (h : RepOk V s rs) (hobs : aobs s' = aobs s)
    (hoff : s.off ≤ s'.off) : RepOk V s' rs := by
  obtain ⟨ha, _, hb⟩ := (aobs_eq_iff s' s).mp hobs
  intro r hr hnb
  obtain ⟨d, hd, hv, hp, ht⟩ := h r hr (mt (hb r.id).mpr hnb)
  have e := ha r.id
  rw [hd] at e
  obtain ⟨d', hd', e⟩ := Option.map_eq_some_iff.mp e
  exact ⟨d', hd', by rw [e]; exact hv, hp, Nat.lt_of_lt_of_le ht (Nat.add_le_add_right hoff _)⟩

structure Mirrors (V : Verify) (al : List Auth) (rl : List Report) (s : State) : Prop where
  inv  : Inv s
  auth : al.foldl AObs.step AObs.empty = aobs s
  rep  : RepOk V s rl
  devs : ∀ id d, s.devices.get id = some d → d.auth.WF ∧ Slots rl s.off id d

theorem Mirrors.integrate {cfg : Cfg} {V : Verify} {al : List Auth} {rl : List Report} {s s' : State} {r : Report}
    {b : Bool} (h : Mirrors V al rl s) (hr : RepOk V s [r]) (hi : integrate cfg s r = some (s', b)) :
    Mirrors V al (rl ++ [r]) s' := by
  have hget := integrate_get hi
  obtain ⟨_, _, _, e⟩ := integrate_frame hi
  have hoff : s'.off = s.off := by rw [e]
  have hobs : aobs s' = aobs s :=
    (aobs_eq_iff _ _).mpr ⟨fun id => by rw [hget, Option.map_map]; rfl, fun _ => by rw [e], fun _ => by rw [e]⟩
  refine ⟨inv_integrate h.inv hi, h.auth.trans hobs.symm, (h.rep.append hr).of_obs hobs (Nat.le_of_eq hoff.symm), ?_⟩
  intro id x hx
  rw [hget] at hx
  obtain ⟨d, hd, rfl⟩ := Option.map_eq_some_iff.mp hx
  exact ⟨(h.devs id d hd).1, hoff ▸ (h.devs id d hd).2.snoc r⟩

theorem Mirrors.skip {V : Verify} {al : List Auth} {rl : List Report} {s : State} {r : Report}
    (h : Mirrors V al rl s) (hb : r.id ∈ s.bans) : Mirrors V al (rl ++ [r]) s :=
  ⟨h.inv, h.auth, h.rep.append fun x hx hn => absurd (List.mem_singleton.mp hx ▸ hb) hn, fun id d hd =>
    ⟨(h.devs id d hd).1, devAct_ne (fun e : r.id = id => by rw [← e, h.inv.banned _ hb] at hd; cases hd) d ▸ (h.devs id d hd).2.snoc r⟩⟩

/-- Records that are in the list already (what a start appends to the report file once more) change nothing. -/
theorem Mirrors.absorb {V : Verify} {al : List Auth} {rl again : List Report} {s : State}
    (h : Mirrors V al rl s) (hsub : ∀ x ∈ again, x ∈ rl) : Mirrors V al (rl ++ again) s := by
  refine ⟨h.inv, h.auth, h.rep.append fun x hx => h.rep x (hsub x hx), fun id d hd =>
    ⟨(h.devs id d hd).1, (h.devs id d hd).2.absorb (fun x hx e => ?_) hsub⟩⟩
  obtain ⟨_, _, _, hv, _⟩ := h.rep x hx fun hb => by rw [h.inv.banned id (e ▸ hb)] at hd; cases hd
  exact hv

theorem Mirrors.shift {V : Verify} {al : List Auth} {rl : List Report} {s s' : State} (h : Mirrors V al rl s)
    (hinv : Inv s') (hd : s'.devices = s.devices.map (fun p => (p.1, shiftDev p.2)))
    (hs : s'.shortIds = s.shortIds) (hb : s'.bans = s.bans) (ho : s'.off = s.off + week) : Mirrors V al rl s' := by
  have hget : ∀ id, s'.devices.get id = (s.devices.get id).map shiftDev := fun id => by rw [hd, get_map_val]
  have hobs : aobs s' = aobs s := by
    refine (aobs_eq_iff _ _).mpr ⟨fun id => ?_, fun _ => by rw [hs], fun _ => by rw [hb]⟩
    rw [hget]; cases s.devices.get id <;> rfl
  refine ⟨hinv, h.auth.trans hobs.symm, h.rep.of_obs hobs (ho ▸ Nat.le_add_right _ _), fun id d' hd' => ?_⟩
  rw [hget] at hd'
  obtain ⟨d, hd, rfl⟩ := Option.map_eq_some_iff.mp hd'
  refine ⟨(h.devs id d hd).1, ho ▸ (h.devs id d hd).2.shift (h.inv.devOk id d hd).2.1 fun r hr e => ?_⟩
  obtain ⟨_, _, _, _, ht⟩ := h.rep r hr fun hb => by rw [h.inv.banned id (e ▸ hb)] at hd; cases hd
  exact ht

theorem Mirrors.reports_eq {V : Verify} {al : List Auth} {rl : List Report} {s t : State}
    (hs : Mirrors V al rl s) (ht : Mirrors V al rl t) (hoff : t.off = s.off) (id : Nat) :
    (t.devices.get id).map (·.reports) = (s.devices.get id).map (·.reports) := by
  have ha := ((aobs_eq_iff t s).mp (ht.auth.symm.trans hs.auth)).1 id
  cases hd : s.devices.get id with
  | none => rw [hd] at ha; rw [Option.map_eq_none_iff.mp ha]
  | some d =>
    rw [hd] at ha
    obtain ⟨d', hd', e⟩ := Option.map_eq_some_iff.mp ha
    rw [hd', Option.map_some, Option.map_some, (hs.devs id d hd).2.reports_eq (hoff ▸ (ht.devs id d' hd').2) e
      (hs.inv.devOk id d hd).2.1 (ht.inv.devOk id d' hd').2.1]

theorem Mirrors.replay (cfg : Cfg) {V : Verify} {al : List Auth} {rs rl : List Report} {s : State}
    (h : Mirrors V al rl s) (hok : RepOk V s rs) :
    ∃ t again, replayReports cfg V s rs = some t ∧ Mirrors V al (rl ++ rs) t ∧
      t.disk.reports = s.disk.reports ++ again ∧ ∀ x ∈ again, x ∈ rs := by
  induction rs generalizing s rl with
  | nil => exact ⟨s, [], rfl, by rw [List.append_nil]; exact h, by rw [List.append_nil], nofun⟩
  | cons r rs ih =>
    have hok' : RepOk V s rs := fun x hx => hok x (List.mem_cons_of_mem _ hx)
    by_cases hb : r.id ∈ s.bans
    · obtain ⟨t, again, hrep, hm, hd, hag⟩ := ih (h.skip hb) hok'
      refine ⟨t, again, ?_, by rw [List.append_assoc] at hm; exact hm, hd, fun x hx => List.mem_cons_of_mem _ (hag x hx)⟩
      rw [replayReports, if_pos (List.contains_iff_mem.mpr hb)]; exact hrep
    · obtain ⟨d, hd, hv, hp, ht⟩ := hok r List.mem_cons_self hb
      obtain ⟨s1, b, hi⟩ := integrate_succeeds cfg hd (h.inv.devOk r.id d hd).2.1
      have h1 := h.integrate (fun x hx _ => by rw [List.mem_singleton.mp hx]; exact ⟨d, hd, hv, hp, ht⟩) hi
      obtain ⟨_, _, _, _, e1⟩ := integrate_some hi
      -- the device of a later record may have changed by now, its authorization has not
      obtain ⟨t, again, hrep, hm, hdk, hag⟩ :=
        ih h1 (hok'.of_obs (h1.auth.symm.trans h.auth) (by rw [e1]; cases b <;> exact Nat.le_refl _))
      refine ⟨t, (if b then [r] else []) ++ again, ?_, by rw [List.append_assoc] at hm; exact hm, ?_, ?_⟩
      · rw [replayReports, if_neg (mt List.contains_iff_mem.mp hb), hd]
        simp only [hv, Bool.not_true, Bool.false_eq_true, if_false, hi]
        exact hrep
      · rw [hdk, e1]; cases b <;> simp
      · intro x hx
        rcases List.mem_append.mp hx with hx | hx
        · cases b <;> simp at hx
          simp [hx]
        · exact List.mem_cons_of_mem _ (hag x hx)

end Gca.Srv
