import Gca.Server.Effects
import Gca.Server.InvParts
/-
Start-up (`load`) in pieces: `server.keys` handling (`loadKeys`), reading the GCA key file
(`loadGca`, whose graph is `GcaInv`), replay of the authorization file and the window offset
(`loadStart`), replay of the report file, catch-up. `loadCore` is `load` without catch-up; `loadK` is the body the
two share.
-/
namespace Gca.Srv

/-- `load` without the final catch-up rotations. -/
def loadCore (cfg : Cfg) (V : Verify) (d : Disk) (tempKey fresh : Key) : Option State :=
  let (srvPub, d) := match d.srvKeys with
    | none => (fresh, { d with srvKeys := some fresh })
    | some [] => (fresh, { d with srvKeys := some fresh })
    | some k => (k, d)
  if srvPub.length ≠ 32 then none else
  let gk : Option (Key × Bool) := match d.gcaKey with
    | none => some (zeros 32, false)
    | some [] => some (zeros 32, false)
    | some k => if k.length = 32 then some (k, true) else none
  match gk with
  | none => none
  | some (gcaKey, avail) =>
  if d.auths.any (fun a => !V gcaKey (Auth.signingBytes a) a.sig) then none else
  let s0 : State := { gcaKey := gcaKey, gcaAvail := avail, tempKey := tempKey, srvPub := srvPub, disk := d }
  let s1 := d.auths.foldl (replayAuth cfg) s0
  let s2 := { s1 with history := d.weeks,
                      off := match d.weeks.getLast? with | none => 0 | some w => w.tso + week }
  replayReports cfg V s2 d.reports

/-- `server.keys` handling at start-up: the public key in use and the directory afterwards. -/
def loadKeys (d : Disk) (fresh : Key) : Key × Disk :=
  match d.srvKeys with
  | none => (fresh, { d with srvKeys := some fresh })
  | some [] => (fresh, { d with srvKeys := some fresh })
  | some k => (k, d)

/-- Reading `gcaPubKey.dat`: the key and whether a GCA is registered; `none` = the start fails. -/
def loadGca : Option Bytes → Option (Key × Bool)
  | none => some (zeros 32, false)
  | some [] => some (zeros 32, false)
  | some k => if k.length = 32 then some (k, true) else none

/-- Window offset computed from the archive file. -/
def loadOff (ws : List Week) : Nat := match ws.getLast? with | none => 0 | some w => w.tso + week

/-- The state in which the replay of the report file starts. -/
def loadStart (cfg : Cfg) (srvPub : Key) (d : Disk) (tempKey gk : Key) (av : Bool) : State :=
  { d.auths.foldl (replayAuth cfg)
      { gcaKey := gk, gcaAvail := av, tempKey := tempKey, srvPub := srvPub, disk := d } with
    history := d.weeks, off := loadOff d.weeks }

/-- The common body of `load` and `loadCore` after the key handling (`srvPub`, `d`: the key in use and the directory
it leaves); `k` is what happens to the result of the report replay. -/
def loadK {β : Type} (k : Option State → Option β) (cfg : Cfg) (V : Verify) (srvPub : Key) (d : Disk) (tempKey : Key) :
    Option β :=
  if srvPub.length ≠ 32 then none else
  match loadGca d.gcaKey with
  | none => none
  | some (gk, av) =>
    if d.auths.any (fun a => !V gk (Auth.signingBytes a) a.sig) then none else
    k (replayReports cfg V (loadStart cfg srvPub d tempKey gk av) d.reports)

/-- Where each field of the state comes from when the replay of the report file starts: the device maps,
bans and recent list from the replayed authorization file `F`, nothing from the lists that are not persisted. -/
theorem loadStart_eq (cfg : Cfg) (srvPub : Key) (d : Disk) (tempKey gk : Key) (av : Bool) :
    loadStart cfg srvPub d tempKey gk av =
      let F := d.auths.foldl (replayAuth cfg)
        { gcaKey := gk, gcaAvail := av, tempKey := tempKey, srvPub := srvPub, disk := d }
      { gcaKey := gk, gcaAvail := av, tempKey := tempKey, srvPub := srvPub, devices := F.devices, shortIds := F.shortIds,
        bans := F.bans, recentA := F.recentA, history := d.weeks, off := loadOff d.weeks, disk := d } := by
  obtain ⟨_, _, _, _, e⟩ := foldl_replayAuth_frame cfg d.auths
    { gcaKey := gk, gcaAvail := av, tempKey := tempKey, srvPub := srvPub, disk := d }
  unfold loadStart
  rw [e]

theorem loadCore_eq (cfg : Cfg) (V : Verify) (d : Disk) (tempKey fresh : Key) :
    loadCore cfg V d tempKey fresh = loadK id cfg V (loadKeys d fresh).1 (loadKeys d fresh).2 tempKey := by rfl

theorem load_eq (cfg : Cfg) (V : Verify) (sgn : Bytes → Bytes) (d : Disk) (tempKey fresh : Key) (now : Nat) :
    load cfg V sgn d tempKey fresh now =
      loadK (fun o => match o with
        | none => none
        | some s3 => match catchUp sgn now (now / week + 2) s3 with
          | (s4, .ok) => some s4
          | _ => none) cfg V (loadKeys d fresh).1 (loadKeys d fresh).2 tempKey := by rfl

theorem loadKeys_snd (d : Disk) (fresh : Key) :
    (loadKeys d fresh).2 = { d with srvKeys := some (loadKeys d fresh).1 } := by
  unfold loadKeys
  cases hk : d.srvKeys with
  | none => rfl
  | some k => cases k <;> simp only [← hk]

theorem loadGca_eq_some {dk : Option Bytes} {gk : Key} {av : Bool} :
    loadGca dk = some (gk, av) ↔ GcaInv gk av dk := by
  constructor
  · intro h
    unfold loadGca at h
    split at h
    · cases h; exact ⟨fun _ => ⟨rfl, Or.inl rfl⟩, fun h => (nomatch h)⟩
    · cases h; exact ⟨fun _ => ⟨rfl, Or.inr rfl⟩, fun h => (nomatch h)⟩
    · split at h <;> cases h
      exact ⟨fun h => (nomatch h), fun _ => ⟨rfl, by assumption⟩⟩
  · intro h
    cases av with
    | false => obtain ⟨rfl, rfl | rfl⟩ := h.gcaUn rfl <;> rfl
    | true =>
      obtain ⟨rfl, hl⟩ := h.gcaAv rfl
      cases gk with
      | nil => cases hl
      | cons c cs => exact if_pos hl

theorem loadK_eq_some {β : Type} {k : Option State → Option β} {cfg : Cfg} {V : Verify} {srvPub : Key} {d : Disk}
    {tempKey : Key} {t : β} :
    loadK k cfg V srvPub d tempKey = some t ↔
      srvPub.length = 32 ∧ ∃ gk av, GcaInv gk av d.gcaKey ∧
        (∀ a ∈ d.auths, V gk (Auth.signingBytes a) a.sig = true) ∧
        k (replayReports cfg V (loadStart cfg srvPub d tempKey gk av) d.reports) = some t := by
  unfold loadK
  simp only [← loadGca_eq_some]
  cases loadGca d.gcaKey with
  | none => simp
  | some g =>
    simp only [Option.ite_none_left_eq_some, Decidable.not_not, List.any_eq_true, Bool.not_eq_true',
      not_exists, not_and, Bool.not_eq_false, Option.some.injEq]
    exact and_congr_right fun _ => ⟨fun h => ⟨_, _, rfl, h⟩, fun ⟨_, _, e, h⟩ => e ▸ h⟩

theorem loadCore_eq_some {cfg : Cfg} {V : Verify} {d : Disk} {tempKey fresh : Key} {t : State} :
    loadCore cfg V d tempKey fresh = some t ↔
      (loadKeys d fresh).1.length = 32 ∧ ∃ gk av, GcaInv gk av d.gcaKey ∧
        (∀ a ∈ d.auths, V gk (Auth.signingBytes a) a.sig = true) ∧
        replayReports cfg V
          (loadStart cfg (loadKeys d fresh).1 { d with srvKeys := some (loadKeys d fresh).1 } tempKey gk av)
          d.reports = some t := by
  rw [loadCore_eq, loadK_eq_some, loadKeys_snd]
  exact Iff.rfl

theorem load_eq_some {cfg : Cfg} {V : Verify} {sgn : Bytes → Bytes} {d : Disk} {tempKey fresh : Key} {now : Nat}
    {t : State} :
    load cfg V sgn d tempKey fresh now = some t ↔
      ∃ s3, loadCore cfg V d tempKey fresh = some s3 ∧ catchUp sgn now (now / week + 2) s3 = (t, .ok) := by
  rw [load_eq, loadK_eq_some, loadKeys_snd]
  simp only [loadCore_eq_some]
  constructor
  · rintro ⟨hl, gk, av, hg, hs, hk⟩
    split at hk
    · cases hk
    · rename_i s3 hr
      refine ⟨s3, ⟨hl, gk, av, hg, hs, hr⟩, ?_⟩
      split at hk <;> cases hk
      assumption
  · rintro ⟨s3, ⟨hl, gk, av, hg, hs, hr⟩, hc⟩
    exact ⟨hl, gk, av, hg, hs, by rw [hr]; simp only [hc]⟩

theorem load_frame {cfg : Cfg} {V : Verify} {sgn : Bytes → Bytes} {d : Disk} {tempKey fresh : Key} {now : Nat}
    {t : State} (h : load cfg V sgn d tempKey fresh now = some t) :
    ∃ s3 ws dv, loadCore cfg V d tempKey fresh = some s3 ∧ dv.map (·.1) = s3.devices.map (·.1) ∧
      t = { s3 with history := s3.history ++ ws, disk := { s3.disk with weeks := s3.disk.weeks ++ ws },
                    devices := dv, off := s3.off + week * ws.length } := by
  obtain ⟨s3, h3, hc⟩ := load_eq_some.mp h
  obtain ⟨ws, dv, hdv, e⟩ := catchUp_frame sgn now (now / week + 2) s3
  rw [hc] at e
  exact ⟨s3, ws, dv, h3, hdv, e⟩

/-- What a started server has from its directory, in this order: the temporary key it was given; the GCA key and flag
that the key file determines; every record of the authorization file verifies under that key; the archive begins with
the archive file. -/
theorem load_reads {cfg : Cfg} {V : Verify} {sgn : Bytes → Bytes} {d : Disk} {tempKey fresh : Key} {now : Nat}
    {t : State} (h : load cfg V sgn d tempKey fresh now = some t) :
    t.tempKey = tempKey ∧ GcaInv t.gcaKey t.gcaAvail d.gcaKey ∧
      (∀ a ∈ d.auths, V t.gcaKey (Auth.signingBytes a) a.sig = true) ∧ d.weeks <+: t.history := by
  obtain ⟨s3, ws, dv, h3, _, rfl⟩ := load_frame h
  obtain ⟨_, gk, av, hg, hs, hr⟩ := loadCore_eq_some.mp h3
  obtain ⟨_, _, _, rfl⟩ := replayReports_frame hr
  rw [loadStart_eq]
  exact ⟨rfl, hg, hs, List.prefix_append _ _⟩

/-- The rule for start-up. A start reads the keys, the archive and the window offset (the state below; `gk`, `av` are
what the key file determines), and from there only writes, in three ways: an authorization record takes effect, a
report is integrated, a week is archived. A `P` that these keep and that holds of that state holds of every state
`load` returns. (`load` sets archive and offset after the replay of the authorization file; a record neither reads
nor writes them, `AuthEff.hist`, so it is as if they were set before.) -/
theorem load_rule {P : State → Prop} {cfg : Cfg} {V : Verify} {sgn : Bytes → Bytes} {d : Disk} {tempKey fresh : Key}
    {now : Nat} {t : State}
    (hauth : ∀ x, ∀ a ∈ d.auths, ∀ x', P x → AuthEff cfg x a x' → P x')
    (hint : ∀ x r x' b, P x → integrate cfg x r = some (x', b) → P x')
    (hrot : ∀ x, P x → P (rotate sgn x).1)
    (h0 : ∀ gk av, GcaInv gk av d.gcaKey → (∀ a ∈ d.auths, V gk (Auth.signingBytes a) a.sig = true) →
      P { gcaKey := gk, gcaAvail := av, tempKey := tempKey, srvPub := (loadKeys d fresh).1, history := d.weeks,
          off := loadOff d.weeks, disk := { d with srvKeys := some (loadKeys d fresh).1 } })
    (h : load cfg V sgn d tempKey fresh now = some t) : P t := by
  obtain ⟨s3, h3, hc⟩ := load_eq_some.mp h
  obtain ⟨_, gk, av, hg, hs, hr⟩ := loadCore_eq_some.mp h3
  have hp : P s3 := by
    refine replayReports_rule hint ?_ hr
    exact foldl_replayAuth_rule (P := fun x => P { x with history := d.weeks, off := loadOff d.weeks }) _
      (fun x a ha x' hx e => hauth _ a ha _ hx (e.hist _ _)) (h0 gk av hg hs)
  have := (catchUp_rule (Q := fun _ => True) sgn now trivial (fun x hx => ⟨hrot x hx, trivial⟩) (now / week + 2) s3 hp).1
  rwa [hc] at this

theorem load_of_core {cfg : Cfg} {V : Verify} {sgn : Bytes → Bytes} {d : Disk} {tempKey fresh : Key} {now : Nat}
    {t : State} (hc : loadCore cfg V d tempKey fresh = some t) (hok : (catchUp sgn now (now / week + 2) t).2 = .ok) :
    load cfg V sgn d tempKey fresh now = some (catchUp sgn now (now / week + 2) t).1 :=
  load_eq_some.mpr ⟨t, hc, Prod.ext rfl hok⟩

end Gca.Srv
