import Gca.Server.Model
/-
What the functions of the server model return, said once, in the order of `Gca/Server/Model.lean`: for each definition
that proofs reason about, an equation, a case lemma, or its action on `devices.get`; the property files rewrite with
these. Not here: the loops of start-up and `step` (Gca/Server/Effects.lean); `load` (Gca/Server/Load.lean);
`statsQuery`, `recentQuery`, `equipmentQuery`, for which the theorems of C03 and C06 are the lemmas; one-line
definitions (`tick`, `banDevice`, `capLimit`, `overCapacity`), unfolded where they are used.
Eight notions are added to the model's own: `ValidP`, a power that is no sentinel; `slotStep`, the rule for one slot
inside `integrateDev`, with its algebra; `admitted`, the guards of the UDP path as one function; `devAct`, a report
as a function on a device entry, through which `integrate` and `dgram` are read device by device; `slotReport`, what
a datagram brings to one slot; `AuthEff`, what an authorization record does to memory, shared by the live path and
the replay at start-up; `statsWeek`, the statistics of one week of the window; `impactAct`, the impact write as a
function on a device entry.
-/
namespace Gca.Srv
open FMap

/-- A report the UDP path can hand to `integrateReport`: power is not a sentinel. -/
def ValidP (r : Report) : Prop := r.p ≠ 0 ∧ r.p ≠ 1

/-- One report applied to one slot (the body of `integrateReport` after the window guards). -/
def slotStep (cap : Nat) (slot r : Report) : Report :=
  if slot.p = 1 then slot else
  if slot = r then slot else
  let s1 := if slot.p = 0 then r else { slot with p := 1 }
  if overCapacity r.p cap then { s1 with p := 1 } else s1

theorem slotStep_after (cap : Nat) (slot r : Report) :
    (slotStep cap slot r).p = 1 ∨ slotStep cap slot r = r := by
  unfold slotStep
  by_cases h : slot.p = 1
  · rw [if_pos h]; exact Or.inl h
  rw [if_neg h]
  by_cases e : slot = r
  · rw [if_pos e]; exact Or.inr e
  · rw [if_neg e]
    cases overCapacity r.p cap
    · by_cases h0 : slot.p = 0
      · exact Or.inr (by simp only [if_pos h0]; rfl)
      · exact Or.inl (by simp only [if_neg h0]; rfl)
    · exact Or.inl rfl

theorem slotStep_eq_self (cap : Nat) (slot r : Report) :
    slotStep cap slot r = slot ↔ (slot.p = 1 ∨ slot = r) := by
  constructor
  · -- `slotStep_after` speaks of the slot after the step, which by `h` is the slot itself
    intro h
    have := slotStep_after cap slot r
    rwa [h] at this
  · rintro (h | h) <;> simp [slotStep, h]

theorem slotStep_empty (cap : Nat) {slot r : Report} (h : slot.p = 0) (hr : r.p ≠ 0) :
    slotStep cap slot r = if overCapacity r.p cap then { r with p := 1 } else r := by
  have hne : ¬ slot = r := fun e => hr (e ▸ h)
  simp only [slotStep, h, hne, if_false, if_true, Nat.zero_ne_one]

theorem slotStep_other (cap : Nat) {slot r : Report} (hs : ValidP slot) (hne : slot ≠ r) :
    (slotStep cap slot r).p = 1 := by
  simp only [slotStep, hs.1, hs.2, hne, if_false]
  split <;> rfl

theorem slotStep_idem (cap : Nat) (slot r : Report) :
    slotStep cap (slotStep cap slot r) r = slotStep cap slot r :=
  (slotStep_eq_self _ _ _).mpr (slotStep_after cap slot r)

theorem foldl_slotStep_eq_self {cap : Nat} {x : Report} {xs : List Report}
    (h : ∀ y ∈ xs, slotStep cap x y = x) : xs.foldl (slotStep cap) x = x := by
  induction xs with
  | nil => rfl
  | cons y ys ih =>
    rw [List.foldl_cons, h y List.mem_cons_self]
    exact ih fun z hz => h z (List.mem_cons_of_mem _ hz)

theorem slotStep_noeffect_stable {cap : Nat} {slot r : Report} (rs : List Report) (hr : ValidP r)
    (h : slotStep cap slot r = slot) :
    slotStep cap (rs.foldl (slotStep cap) slot) r = rs.foldl (slotStep cap) slot := by
  induction rs generalizing slot with
  | nil => exact h
  | cons y ys ih =>
    refine ih ((slotStep_eq_self _ _ _).mpr ?_)
    rcases (slotStep_eq_self _ _ _).mp h with hb | rfl
    · rw [(slotStep_eq_self cap slot y).mpr (Or.inl hb)]; exact Or.inl hb
    · -- the slot holds `r`: another report bans it, the same one changes nothing
      by_cases e : slot = y
      · exact Or.inr ((slotStep_eq_self cap slot y).mpr (Or.inr e))
      · exact Or.inl (slotStep_other cap hr e)

theorem slotStep_absorb (cap : Nat) (x r : Report) {l : List Report} (hr : ValidP r) (hmem : r ∈ l) :
    slotStep cap (l.foldl (slotStep cap) x) r = l.foldl (slotStep cap) x := by
  induction l generalizing x with
  | nil => cases hmem
  | cons a t ih =>
    rcases List.mem_cons.mp hmem with rfl | h
    · exact slotStep_noeffect_stable t hr (slotStep_idem cap x r)
    · exact ih _ h

/-- `integrateDev` is `slotStep` on the slot of the report; "recorded" means the slot changed. -/
theorem integrateDev_eq (off : Nat) (d : Dev) (r : Report) :
    integrateDev off d r =
      if off ≤ r.ts ∧ r.ts < off + window then
        (d.reports[r.ts - off]?).map fun slot =>
          ({ d with reports := d.reports.set (r.ts - off) (slotStep d.auth.cap slot r) },
           decide (slotStep d.auth.cap slot r ≠ slot))
      else some (d, false) := by
  unfold integrateDev
  by_cases h1 : r.ts < off
  · rw [if_pos h1, if_neg fun c => Nat.not_le.mpr h1 c.1]
  by_cases h2 : off + window ≤ r.ts
  · rw [if_neg h1, if_pos h2, if_neg fun c => Nat.not_le.mpr c.2 h2]
  rw [if_neg h1, if_neg h2, if_pos ⟨Nat.not_lt.mp h1, Nat.not_le.mp h2⟩]
  cases hs : d.reports[r.ts - off]? with
  | none => rfl
  | some slot =>
    obtain ⟨hi, rfl⟩ := List.getElem?_eq_some_iff.mp hs
    have key := slotStep_eq_self d.auth.cap d.reports[r.ts - off] r
    rw [Option.map_some]
    by_cases hn : d.reports[r.ts - off].p = 1 ∨ d.reports[r.ts - off] = r
    · -- no effect: the slot is written back as it is
      rw [key.mpr hn, List.set_getElem_self, decide_eq_false (not_not_intro rfl)]
      by_cases hp : d.reports[r.ts - off].p = 1
      · exact if_pos hp
      · exact (if_neg hp).trans (if_pos (hn.resolve_left hp))
    · obtain ⟨hp, he⟩ := not_or.mp hn
      rw [decide_eq_true (mt key.mp hn)]
      exact (if_neg hp).trans ((if_neg he).trans (by simp only [slotStep, if_neg hp, if_neg he]))

theorem integrateDev_keeps {off : Nat} {d d' : Dev} {r : Report} {b : Bool}
    (h : integrateDev off d r = some (d', b)) :
    d'.auth = d.auth ∧ d'.reports.length = d.reports.length ∧ d'.impact = d.impact := by
  rw [integrateDev_eq] at h
  split at h
  · obtain ⟨slot, _, h⟩ := Option.map_eq_some_iff.mp h
    cases h; exact ⟨rfl, List.length_set, rfl⟩
  · cases h; exact ⟨rfl, rfl, rfl⟩

theorem integrateDev_false {off : Nat} {d d' : Dev} {r : Report}
    (h : integrateDev off d r = some (d', false)) : d' = d := by
  rw [integrateDev_eq] at h
  split at h
  · obtain ⟨slot, hs, h⟩ := Option.map_eq_some_iff.mp h
    obtain ⟨rfl, hb⟩ := Prod.mk.inj h
    obtain ⟨hi, rfl⟩ := List.getElem?_eq_some_iff.mp hs
    rw [Decidable.not_not.mp (of_decide_eq_false hb), List.set_getElem_self]
  · cases h; rfl

theorem integrateDev_true {off : Nat} {d d' : Dev} {r : Report}
    (h : integrateDev off d r = some (d', true)) : off ≤ r.ts ∧ r.ts < off + window := by
  rw [integrateDev_eq] at h
  split at h
  · assumption
  · cases h

theorem integrateDev_succeeds (off : Nat) {d : Dev} (r : Report) (hlen : d.reports.length = window) :
    ∃ d' b, integrateDev off d r = some (d', b) := by
  rw [integrateDev_eq]
  split
  · rename_i h
    rw [List.getElem?_eq_getElem (hlen ▸ Nat.sub_lt_left_of_lt_add h.1 h.2)]; exact ⟨_, _, rfl⟩
  · exact ⟨_, _, rfl⟩

theorem integrate_eq (cfg : Cfg) (s : State) (r : Report) :
    integrate cfg s r =
      (s.devices.get r.id).bind fun d => (integrateDev s.off d r).map fun q =>
        if q.2 then
          ({ s with devices := s.devices.set r.id q.1,
                    recentR := pushRecent cfg.maxRecent s.recentR r,
                    disk := { s.disk with reports := s.disk.reports ++ [r] } }, true)
        else (s, false) := by
  unfold integrate
  cases s.devices.get r.id with
  | none => rfl
  | some d =>
    dsimp only [Option.bind_some]
    cases integrateDev s.off d r with
    | none => rfl
    | some q => obtain ⟨d', b⟩ := q; cases b <;> rfl

theorem integrate_some {cfg : Cfg} {s s' : State} {r : Report} {b : Bool}
    (h : integrate cfg s r = some (s', b)) :
    ∃ d d', s.devices.get r.id = some d ∧ integrateDev s.off d r = some (d', b) ∧
      s' = if b then { s with devices := s.devices.set r.id d',
                              recentR := pushRecent cfg.maxRecent s.recentR r,
                              disk := { s.disk with reports := s.disk.reports ++ [r] } } else s := by
  rw [integrate_eq] at h
  obtain ⟨d, hd, h⟩ := Option.bind_eq_some_iff.mp h
  obtain ⟨⟨d', b'⟩, hi, h⟩ := Option.map_eq_some_iff.mp h
  refine ⟨d, d', hd, ?_⟩
  cases b' <;> cases h <;> exact ⟨hi, rfl⟩

theorem integrate_frame {cfg : Cfg} {s s' : State} {r : Report} {b : Bool} (h : integrate cfg s r = some (s', b)) :
    ∃ dv rr rp, s' = { s with devices := dv, recentR := rr, disk := { s.disk with reports := rp } } := by
  obtain ⟨_, _, _, _, rfl⟩ := integrate_some h
  cases b <;> exact ⟨_, _, _, rfl⟩

/-- For a known device with a full-length window `integrate` never hits the panicking branches. -/
theorem integrate_succeeds (cfg : Cfg) {s : State} {r : Report} {d : Dev}
    (hd : s.devices.get r.id = some d) (hlen : d.reports.length = window) :
    ∃ s' b, integrate cfg s r = some (s', b) := by
  obtain ⟨d', b, hi⟩ := integrateDev_succeeds s.off r hlen
  rw [integrate_eq, hd, Option.bind_some, hi]
  exact ⟨_, _, rfl⟩

theorem integrate_outside (cfg : Cfg) {s : State} {r : Report} {d : Dev}
    (hd : s.devices.get r.id = some d) (h : ¬ (s.off ≤ r.ts ∧ r.ts < s.off + window)) :
    integrate cfg s r = some (s, false) := by
  rw [integrate_eq, hd, Option.bind_some, integrateDev_eq, if_neg h]; rfl

theorem parseReport_eq_some {V : Verify} {s : State} {b : Bytes} {r : Report} :
    parseReport V s b = some r ↔
      Report.decode b = some r ∧ ∃ dev, s.devices.get r.id = some dev ∧
        V dev.auth.key (Report.signingBytes r) r.sig = true := by
  unfold parseReport
  cases Report.decode b with
  | none => simp
  | some r' =>
    dsimp only
    cases hg : s.devices.get r'.id with
    | none =>
      simp only [reduceCtorEq, Option.some.injEq, false_iff, not_and]
      rintro rfl ⟨dev, h, _⟩
      rw [hg] at h; cases h
    | some dev =>
      simp only [Option.ite_none_right_eq_some, Option.some.injEq]
      constructor
      · rintro ⟨hv, rfl⟩; exact ⟨rfl, dev, hg, hv⟩
      · rintro ⟨rfl, dev', h, hv⟩
        rw [hg] at h; cases h; exact ⟨hv, rfl⟩

/-- The report a datagram hands to `integrate`: it passed every check of the UDP path, none of which
looks at the storage window. -/
def admitted (V : Verify) (s : State) (now : Nat) (d : Bytes) : Option Report :=
  if d.length < 80 then none else
  match parseReport V s (d.take 80) with
  | none => none
  | some r =>
    if ((r.ts : Int) < (now : Int) - 432 ∨ (r.ts : Int) > (now : Int) + 432) ∨ (r.p = 0 ∨ r.p = 1) then none
    else some r

theorem dgram_eq (cfg : Cfg) (V : Verify) (s : State) (now : Nat) (d : Bytes) :
    dgram cfg V s now d =
      match admitted V s now d with
      | none => (s, .dropped)
      | some r =>
        match integrate cfg s r with
        | none => (s, .panic)
        | some (s', recorded) => (s', if recorded then .stored else .dropped) := by
  unfold dgram admitted
  by_cases hl : d.length < 80
  · rw [if_pos hl, if_pos hl]
  rw [if_neg hl, if_neg hl]
  cases parseReport V s (d.take 80) with
  | none => rfl
  | some r =>
    dsimp only
    by_cases ht : (r.ts : Int) < (now : Int) - 432 ∨ (r.ts : Int) > (now : Int) + 432
    · rw [if_pos ht, if_pos (Or.inl ht)]
    by_cases hp : r.p = 0 ∨ r.p = 1
    · rw [if_neg ht, if_pos hp, if_pos (Or.inr hp)]
    · rw [if_neg ht, if_neg hp, if_neg (not_or.mpr ⟨ht, hp⟩)]
      rfl

theorem admitted_eq_some {V : Verify} {s : State} {now : Nat} {d : Bytes} {r : Report} :
    admitted V s now d = some r ↔
      80 ≤ d.length ∧ Report.decode (d.take 80) = some r ∧
      (∃ dev, s.devices.get r.id = some dev ∧ V dev.auth.key (Report.signingBytes r) r.sig = true) ∧
      (now : Int) - 432 ≤ r.ts ∧ (r.ts : Int) ≤ now + 432 ∧ ValidP r := by
  unfold admitted
  by_cases hl : d.length < 80
  · rw [if_pos hl]; exact ⟨nofun, fun h => absurd h.1 (Nat.not_le.mpr hl)⟩
  rw [if_neg hl]
  cases hp : parseReport V s (d.take 80) with
  | none => exact ⟨nofun, fun ⟨_, h1, h2, _⟩ => nomatch hp.symm.trans (parseReport_eq_some.mpr ⟨h1, h2⟩)⟩
  | some r' =>
    obtain ⟨h1, h2⟩ := parseReport_eq_some.mp hp
    show (if _ then none else some r') = some r ↔ _
    rw [Option.ite_none_left_eq_some, not_or, not_or, Int.not_lt, Int.not_lt, Option.some.injEq]
    constructor
    · rintro ⟨⟨⟨ha, hb⟩, hv⟩, rfl⟩; exact ⟨Nat.not_lt.mp hl, h1, h2, ha, hb, not_or.mp hv⟩
    · rintro ⟨_, h1', _, ha, hb, hv⟩
      cases h1.symm.trans h1'
      exact ⟨⟨⟨ha, hb⟩, not_or.mpr hv⟩, rfl⟩

theorem dgram_cases (cfg : Cfg) (V : Verify) (s : State) (now : Nat) (d : Bytes) :
    (dgram cfg V s now d).1 = s ∨
    ∃ r, admitted V s now d = some r ∧ integrate cfg s r = some ((dgram cfg V s now d).1, true) := by
  rw [dgram_eq]
  cases ha : admitted V s now d with
  | none => exact Or.inl rfl
  | some r =>
    dsimp only
    cases hi : integrate cfg s r with
    | none => exact Or.inl rfl
    | some q =>
      obtain ⟨s', rec⟩ := q
      cases rec with
      | false => obtain ⟨_, _, _, _, rfl⟩ := integrate_some hi; exact Or.inl rfl
      | true => exact Or.inr ⟨r, rfl, hi⟩

/-! ### A datagram as a function on the devices

`integrateDev` made total (`devAct`: a panic changes nothing), then `integrate` and `dgram` read
through `get`: each maps one function over the entry of a device, so the effects of several
operations on a device compose and can be compared as functions on `Dev`. A batch of datagrams is
then, slot by slot, a fold of `slotStep` (`foldl_dgram_slot`). -/

theorem admitted_congr {V : Verify} {s s' : State}
    (h : ∀ id, (s'.devices.get id).map Dev.auth = (s.devices.get id).map Dev.auth) (now : Nat) (d : Bytes) :
    admitted V s' now d = admitted V s now d := by
  have hp : ∀ b, parseReport V s' b = parseReport V s b := by
    intro b
    unfold parseReport
    cases Report.decode b with
    | none => rfl
    | some r =>
      have := h r.id
      dsimp only
      cases h1 : s'.devices.get r.id <;> cases h2 : s.devices.get r.id <;>
        simp only [h1, h2, Option.map_some, Option.map_none, reduceCtorEq, Option.some.injEq] at this
      · rfl
      · dsimp only; rw [this]
  unfold admitted
  rw [hp]

/-- An optional report applied to the entry of device `k`: a `slotStep` on its slot, if the report names `k` and
the slot lies in the window. Written as an update of `reports` alone, so that `auth` and `impact` of the result,
and what it does to an entry with other impact rates, reduce by `rfl`. -/
def devAct (off k : Nat) (o : Option Report) (dv : Dev) : Dev :=
  { dv with reports := match o with
      | some r =>
        if r.id = k ∧ off ≤ r.ts ∧ r.ts < off + window then dv.reports.modify (r.ts - off) (slotStep dv.auth.cap · r)
        else dv.reports
      | none => dv.reports }

theorem devAct_auth (off k : Nat) (o : Option Report) (dv : Dev) : (devAct off k o dv).auth = dv.auth := rfl

theorem devAct_some (off k : Nat) (r : Report) (dv : Dev) :
    devAct off k (some r) dv = { dv with reports :=
      if r.id = k ∧ off ≤ r.ts ∧ r.ts < off + window then dv.reports.modify (r.ts - off) (slotStep dv.auth.cap · r)
      else dv.reports } := rfl

theorem devAct_ne {off k : Nat} {r : Report} (h : r.id ≠ k) (dv : Dev) : devAct off k (some r) dv = dv := by
  rw [devAct_some, if_neg fun c => h c.1]

/-- `devAct` is the entry `integrateDev` returns; where that panics (no such slot) `devAct` changes nothing. -/
theorem integrateDev_devAct (off : Nat) (dv : Dev) (r : Report) :
    devAct off r.id (some r) dv = ((integrateDev off dv r).map (·.1)).getD dv := by
  rw [devAct_some, integrateDev_eq]
  by_cases h : off ≤ r.ts ∧ r.ts < off + window
  · rw [if_pos h, if_pos ⟨rfl, h⟩]
    cases hs : dv.reports[r.ts - off]? with
    | none => rw [List.modify_eq_self (List.getElem?_eq_none_iff.mp hs)]; rfl
    | some slot =>
      obtain ⟨hi, rfl⟩ := List.getElem?_eq_some_iff.mp hs
      rw [Option.map_some, Option.map_some, Option.getD_some, List.modify_eq_take_cons_drop hi,
        List.set_eq_take_append_cons_drop, if_pos hi]
  · rw [if_neg h, if_neg fun c => h c.2]; rfl

theorem devAct_slot (off k : Nat) (o : Option Report) (dv : Dev) (i : Nat) :
    (devAct off k o dv).reports[i]? = dv.reports[i]?.map fun x =>
      match o.filter fun r => r.id = k ∧ r.ts = off + i ∧ i < window with
      | some r => slotStep dv.auth.cap x r
      | none => x := by
  cases o with
  | none => exact Option.map_id'.symm
  | some r =>
    rw [Option.filter_some, devAct_some]
    by_cases c : r.id = k ∧ r.ts = off + i ∧ i < window
    · obtain ⟨c1, c2, c3⟩ := c
      rw [if_pos ⟨c1, c2 ▸ Nat.le_add_right _ _, c2 ▸ Nat.add_lt_add_left c3 _⟩, if_pos (decide_eq_true ⟨c1, c2, c3⟩),
        List.getElem?_modify, c2, Nat.add_sub_cancel_left]
      simp only [if_true]; rfl
    · rw [if_neg (mt of_decide_eq_true c)]
      refine Eq.trans ?_ Option.map_id'.symm
      -- not for slot `i` of `k`: the report modifies another slot of `k`, or nothing
      by_cases w : r.id = k ∧ off ≤ r.ts ∧ r.ts < off + window
      · have e : ¬ r.ts - off = i := fun e => by
          have : r.ts = off + i := (Nat.sub_eq_iff_eq_add' w.2.1).mp e
          exact c ⟨w.1, this, Nat.lt_of_add_lt_add_left (this ▸ w.2.2)⟩
        rw [if_pos w, List.getElem?_modify]
        simp only [e, if_false]; exact Option.map_id'
      · rw [if_neg w]

theorem integrate_get {cfg : Cfg} {s s' : State} {r : Report} {b : Bool} (h : integrate cfg s r = some (s', b))
    (k : Nat) : s'.devices.get k = (s.devices.get k).map (devAct s.off k (some r)) := by
  obtain ⟨d, d', hd, hi, rfl⟩ := integrate_some h
  have e : devAct s.off r.id (some r) d = d' := by rw [integrateDev_devAct, hi]; rfl
  refine get_eq_map_at (devAct s.off · (some r)) hd ?_ ?_ (fun _ x e => devAct_ne e x) k <;> cases b
  -- under `r.id`: if nothing was recorded `d' = d` is still there, otherwise `d'` was put there
  · rw [e, integrateDev_false hi]; exact hd
  · rw [e]; exact get_set_same
  -- under another key: the same map, or a `set` elsewhere
  · exact fun _ _ => rfl
  · exact fun _ hne => get_set_ne hne

theorem dgram_get (cfg : Cfg) (V : Verify) (s : State) (now : Nat) (d : Bytes) (k : Nat) :
    (dgram cfg V s now d).1.devices.get k = (s.devices.get k).map (devAct s.off k (admitted V s now d)) := by
  rw [dgram_eq]
  cases ha : admitted V s now d with
  | none => exact Option.map_id'.symm
  | some r =>
    dsimp only
    cases hi : integrate cfg s r with
    | some q => exact integrate_get hi k
    | none =>
      -- a panic changes nothing, and neither does `devAct` where the slot does not exist
      obtain ⟨_, _, ⟨dev, hd, -⟩, _⟩ := admitted_eq_some.mp ha
      rw [integrate_eq, hd, Option.bind_some, Option.map_eq_none_iff] at hi
      refine get_eq_map_at (devAct s.off · (some r)) hd ?_ (fun _ _ => rfl) (fun _ x e => devAct_ne e x) k
      rw [integrateDev_devAct, hi]; exact hd

theorem dgram_off (cfg : Cfg) (V : Verify) (s : State) (now : Nat) (d : Bytes) :
    (dgram cfg V s now d).1.off = s.off := by
  rcases dgram_cases cfg V s now d with h | ⟨r, -, hi⟩
  · rw [h]
  · obtain ⟨_, _, _, h⟩ := integrate_frame hi
    rw [h]

theorem dgram_auth (cfg : Cfg) (V : Verify) (s : State) (now : Nat) (d : Bytes) (k : Nat) :
    ((dgram cfg V s now d).1.devices.get k).map Dev.auth = (s.devices.get k).map Dev.auth := by
  rw [dgram_get, Option.map_map]; rfl

/-- The report a datagram contributes to slot `i` of device `k`, as judged in state `s`. -/
def slotReport (V : Verify) (s : State) (now k i : Nat) (d : Bytes) : Option Report :=
  (admitted V s now d).filter fun r => r.id = k ∧ r.ts = s.off + i ∧ i < window

theorem slotReport_eq_some {V : Verify} {s : State} {now k i : Nat} {d : Bytes} {r : Report} :
    slotReport V s now k i d = some r ↔ admitted V s now d = some r ∧ r.id = k ∧ r.ts = s.off + i ∧ i < window := by
  unfold slotReport
  rw [Option.filter_eq_some_iff, decide_eq_true_eq]

/-- Slot `i` of device `k` after a batch of datagrams (one clock, no rotation in between): the reports
the batch carries for that slot, folded into it by `slotStep`. A datagram changes neither the window
offset nor an authorization, so every datagram of the batch is judged as in the state at the start. -/
theorem foldl_dgram_slot (cfg : Cfg) (V : Verify) (now : Nat) (ds : List Bytes) (s : State) (k i : Nat) :
    ((ds.foldl (fun s d => (dgram cfg V s now d).1) s).devices.get k).map (·.reports[i]?) =
      (s.devices.get k).map fun dv => dv.reports[i]?.map fun x =>
        (ds.filterMap (slotReport V s now k i)).foldl (slotStep dv.auth.cap) x := by
  induction ds generalizing s with
  | nil => simp only [List.foldl_nil, List.filterMap_nil, Option.map_id']
  | cons d t ih =>
    have hs : slotReport V (dgram cfg V s now d).1 now k i = slotReport V s now k i := by
      funext b
      unfold slotReport
      rw [admitted_congr (dgram_auth cfg V s now d), dgram_off]
    rw [List.foldl_cons, ih, hs, dgram_get, Option.map_map]
    cases s.devices.get k with
    | none => rfl
    | some dv =>
      simp only [Option.map_some, Function.comp, devAct_auth, devAct_slot, Option.map_map]
      rw [List.filterMap_cons, show Option.filter _ (admitted V s now d) = slotReport V s now k i d from rfl]
      cases slotReport V s now k i d <;> rfl

theorem filterMap_slotReport_valid (V : Verify) (s : State) (now k i : Nat) (ds : List Bytes) :
    ∀ r ∈ ds.filterMap (slotReport V s now k i), ValidP r := by
  intro r hr
  obtain ⟨d, -, hd⟩ := List.mem_filterMap.mp hr
  obtain ⟨_, _, _, _, _, hv⟩ := admitted_eq_some.mp (slotReport_eq_some.mp hd).1
  exact hv

theorem register_eq (V : Verify) (s : State) (key sig : Bytes) :
    register V s key sig =
      if s.gcaAvail = false ∧ V s.tempKey (Registration.signingBytes key) sig = true then
        ({ s with gcaKey := key, gcaAvail := true, disk := { s.disk with gcaKey := some key } }, .ok)
      else (s, .refused) := by
  unfold register
  cases s.gcaAvail <;> cases V s.tempKey (Registration.signingBytes key) sig <;> rfl

theorem authorize_eq (cfg : Cfg) (V : Verify) (s : State) (a : Auth) :
    authorize cfg V s a =
      if s.gcaAvail = true ∧ V s.gcaKey (Auth.signingBytes a) a.sig = true then saveEquipment cfg s a
      else (s, .refused) := by
  unfold authorize
  cases s.gcaAvail <;> cases V s.gcaKey (Auth.signingBytes a) a.sig <;> rfl

/-- What an authorization record does to memory when it is not ignored, on either path: a
conflict removes the device and bans the id, a new id with an unused key adds a device. -/
inductive AuthEff (cfg : Cfg) (s : State) (a : Auth) : State → Prop
  | conflict {cur : Dev} : a.id ∉ s.bans → s.devices.get a.id = some cur →
      AuthEff cfg s a (banDevice { s with recentA := pushRecent cfg.maxRecentAuth s.recentA a } a.id cur.auth)
  | new : a.id ∉ s.bans → s.devices.get a.id = none → s.shortIds.get a.key = none →
      AuthEff cfg s a { s with recentA := pushRecent cfg.maxRecentAuth s.recentA a,
                               shortIds := s.shortIds.set a.key a.id, devices := s.devices.set a.id (newDev a) }

theorem saveEquipment_cases (cfg : Cfg) (s : State) (a : Auth) :
    saveEquipment cfg s a = (s, .refused) ∨ saveEquipment cfg s a = (s, .ok) ∨
    (∃ cur, a.id ∉ s.bans ∧ s.devices.get a.id = some cur ∧ authEq cur.auth a = false ∧
      saveEquipment cfg s a =
        (banDevice { s with disk := { s.disk with auths := s.disk.auths ++ [a] },
                            recentA := pushRecent cfg.maxRecentAuth s.recentA a } a.id cur.auth, .banned)) ∨
    (a.id ∉ s.bans ∧ s.devices.get a.id = none ∧ s.shortIds.get a.key = none ∧
      saveEquipment cfg s a =
        ({ s with disk := { s.disk with auths := s.disk.auths ++ [a] },
                  recentA := pushRecent cfg.maxRecentAuth s.recentA a,
                  shortIds := s.shortIds.set a.key a.id, devices := s.devices.set a.id (newDev a) }, .okNew)) := by
  unfold saveEquipment
  by_cases hb : a.id ∈ s.bans
  · exact Or.inl (if_pos (by simpa using hb))
  rw [if_neg (by simpa using hb)]
  cases hc : s.devices.get a.id with
  | some cur =>
    dsimp only
    cases he : authEq cur.auth a with
    | true => exact Or.inr (Or.inl rfl)
    | false => exact Or.inr (Or.inr (Or.inl ⟨cur, hb, rfl, he, rfl⟩))
  | none =>
    cases hk : s.shortIds.get a.key with
    | some v => exact Or.inl (by simp [has, hk])
    | none => exact Or.inr (Or.inr (Or.inr ⟨hb, rfl, rfl, by simp [has, hk]⟩))

/-- The replay path decides a conflict by comparing the serialized records. -/
theorem replayAuth_cases (cfg : Cfg) (s : State) (a : Auth) :
    replayAuth cfg s a = s ∨ AuthEff cfg s a (replayAuth cfg s a) := by
  unfold replayAuth
  by_cases hb : a.id ∈ s.bans
  · exact Or.inl (if_pos (by simpa using hb))
  rw [if_neg (by simpa using hb)]
  cases hc : s.devices.get a.id with
  | some cur =>
    dsimp only
    by_cases he : Auth.encode cur.auth = Auth.encode a
    · rw [if_pos he]; exact Or.inl rfl
    · rw [if_neg he]; exact Or.inr (.conflict hb hc)
  | none =>
    cases hk : s.shortIds.get a.key with
    | some v => exact Or.inl (by simp [has, hk])
    | none => rw [if_neg (by simp [has, hk])]; exact Or.inr (.new hb hc hk)

theorem AuthEff.frame {cfg : Cfg} {s s' : State} {a : Auth} (e : AuthEff cfg s a s') :
    ∃ dv sh bn ra, s' = { s with devices := dv, shortIds := sh, bans := bn, recentA := ra } := by
  cases e <;> exact ⟨_, _, _, _, rfl⟩

theorem AuthEff.hist {cfg : Cfg} {s s' : State} {a : Auth} (e : AuthEff cfg s a s') (h : List Week) (o : Nat) :
    AuthEff cfg { s with history := h, off := o } a { s' with history := h, off := o } := by
  cases e with
  | conflict hb hc => exact .conflict hb hc
  | new hb hc hk => exact .new hb hc hk

theorem AuthEff.get_ne {cfg : Cfg} {s s' : State} {a : Auth} (e : AuthEff cfg s a s') {id : Nat} (h : a.id ≠ id) :
    s'.devices.get id = s.devices.get id := by
  cases e with
  | conflict => exact get_del_ne h
  | new => exact get_set_ne h

theorem AuthEff.get_same {cfg : Cfg} {s s' : State} {a : Auth} (e : AuthEff cfg s a s') :
    s'.devices.get a.id = none ∨ s'.devices.get a.id = some (newDev a) := by
  cases e with
  | conflict => exact Or.inl get_del_same
  | new => exact Or.inr get_set_same

/-- The replay does to memory what the live path did, provided a conflict is one of the serialized records too. -/
theorem AuthEff.replay {cfg : Cfg} {s s' : State} {a : Auth} (e : AuthEff cfg s a s')
    (hne : ∀ cur, s.devices.get a.id = some cur → Auth.encode cur.auth ≠ Auth.encode a) :
    replayAuth cfg s a = s' := by
  unfold replayAuth
  cases e with
  | conflict hb hc => rw [if_neg (by simpa using hb), hc]; exact if_neg (hne _ hc)
  | new hb hc hk => rw [if_neg (by simpa using hb), hc]; exact if_neg (by simp [has, hk])

/-- Go struct inequality of a stored well-formed authorization and an incoming
well-formed one without NaN coordinates means different bytes on disk. -/
theorem authEq_false_encode {x a : Auth} (hx : x.WF) (ha : a.WF)
    (h1 : isNaN a.lat = false) (h2 : isNaN a.lon = false) (h : authEq x a = false) :
    Auth.encode x ≠ Auth.encode a := by
  intro he
  cases Auth.encode_inj hx ha he
  have : authEq x x = true := by simp [authEq, floatEq, h1, h2]
  rw [this] at h
  cases h

/-- The statistics of one week of the window (`x` slots into it) of the device map `devs`, labelled `tso`. -/
def statsWeek (sgn : Bytes → Bytes) (devs : FMap Nat Dev) (x tso : Nat) : Week :=
  { devs := devs.map (fun p => devStats x p.2), tso := tso,
    sig := sgn (Week.signingBytes ⟨devs.map (fun p => devStats x p.2), tso, []⟩) }

/-- `buildStats` serves the first and the second week of the window. -/
theorem buildStats_eq (sgn : Bytes → Bytes) (s : State) (tso : Nat) :
    buildStats sgn s tso =
      if tso % week = 0 ∧ s.off ≤ tso ∧ tso ≤ s.off + week then
        some (statsWeek sgn s.devices (if tso = s.off + week then week else 0) tso)
      else none := by
  unfold buildStats
  by_cases h1 : tso % week = 0
  · by_cases h2 : tso < s.off
    · rw [if_neg (not_not_intro h1), if_pos h2, if_neg fun c => Nat.not_le.mpr h2 c.2.1]
    · by_cases h3 : tso > s.off + week
      · rw [if_neg (not_not_intro h1), if_neg h2, if_pos h3, if_neg fun c => Nat.not_le.mpr h3 c.2.2]
      · have hc : tso % week = 0 ∧ s.off ≤ tso ∧ tso ≤ s.off + week := ⟨h1, Nat.not_lt.mp h2, Nat.not_lt.mp h3⟩
        rw [if_neg (not_not_intro h1), if_neg h2, if_neg h3, if_pos hc]; rfl
  · rw [if_pos h1, if_neg fun c => h1 c.1]

theorem shiftList_lo {α} {b : α} {l : List α} (hl : l.length = window) {i : Nat} (hi : i < week) :
    (shiftList b l)[i]? = l[i + week]? := by
  unfold shiftList
  rw [List.getElem?_append_left (by rw [List.length_drop, hl]; exact hi), List.getElem?_drop, Nat.add_comm]

theorem shiftList_hi {α} {b : α} {l : List α} (hl : l.length = window) {i : Nat} (h1 : week ≤ i)
    (h2 : i < window) : (shiftList b l)[i]? = some b := by
  unfold shiftList
  have hd : (l.drop week).length = week := by rw [List.length_drop, hl]; rfl
  rw [List.getElem?_append_right (by rw [hd]; exact h1), hd, List.getElem?_replicate,
    if_pos (Nat.sub_lt_left_of_lt_add h1 h2)]

theorem shiftList_length {α} {blank : α} {l : List α} (h : l.length = window) :
    (shiftList blank l).length = window := by
  simp only [shiftList, List.length_append, List.length_drop, List.length_replicate, h]
  decide

/-- Without the alignment of the offset: nothing happens, or one week is archived. -/
theorem rotate_cases (sgn : Bytes → Bytes) (s : State) :
    rotate sgn s = (s, .panic) ∨ ∃ w, buildStats sgn s s.off = some w ∧
      rotate sgn s = ({ s with history := s.history ++ [w],
                               disk := { s.disk with weeks := s.disk.weeks ++ [w] },
                               devices := s.devices.map (fun p => (p.1, shiftDev p.2)),
                               off := s.off + week }, .ok) := by
  unfold rotate
  cases buildStats sgn s s.off with
  | none => exact Or.inl rfl
  | some w => exact Or.inr ⟨w, rfl, rfl⟩

theorem rotate_eq (sgn : Bytes → Bytes) {s : State} (h0 : s.off % week = 0) :
    rotate sgn s = ({ s with
              history := s.history ++ [statsWeek sgn s.devices 0 s.off],
              disk := { s.disk with weeks := s.disk.weeks ++ [statsWeek sgn s.devices 0 s.off] },
              devices := s.devices.map (fun p => (p.1, shiftDev p.2)),
              off := s.off + week }, .ok) := by
  unfold rotate
  have hc : s.off % week = 0 ∧ s.off ≤ s.off ∧ s.off ≤ s.off + week := ⟨h0, Nat.le_refl _, Nat.le_add_right _ _⟩
  rw [buildStats_eq, if_pos hc, if_neg (Nat.ne_of_lt (Nat.lt_add_of_pos_right (by decide)))]

theorem sync_eq (s : State) (id : Nat) :
    sync s id =
      match s.devices.get id with
      | none => .syncRefused
      | some d => .syncReply d.auth.key s.off (d.reports.map fun r => decide (r.p > 0)) (s.migs.get d.auth.key)
          (if (s.migs.get d.auth.key).isSome then [] else s.servers) := by
  unfold sync
  cases s.devices.get id with
  | none => rfl
  | some d => dsimp only; cases s.migs.get d.auth.key <;> rfl

theorem authServer_cases (V : Verify) (s : State) (a : AuthServer) :
    ∃ l o, authServer V s a = ({ s with servers := l }, o) ∧ (o = .ok ∨ o = .refused) ∧
      (l = s.servers ∨
       V s.gcaKey (AuthServer.signingBytes a) a.sig = true ∧ a.loc.length ≤ 255 ∧
        ((∀ e ∈ s.servers, e.key ≠ a.key) ∧ l = s.servers ++ [a] ∨
         a.banned = true ∧ (∃ e ∈ s.servers, e.key = a.key ∧ e.banned = false) ∧
          l = s.servers.map fun e => if e.key == a.key then a else e)) := by
  unfold authServer
  by_cases hl : a.loc.length > 255
  · exact ⟨_, _, if_pos hl, .inr rfl, .inl rfl⟩
  rw [if_neg hl]
  cases hv : V s.gcaKey (AuthServer.signingBytes a) a.sig
  · exact ⟨_, _, rfl, .inr rfl, .inl rfl⟩
  cases hf : s.servers.find? (fun e => e.key == a.key) with
  | none =>
    exact ⟨_, _, rfl, .inl rfl, .inr ⟨rfl, Nat.le_of_not_gt hl, .inl
      ⟨fun e he => by simpa using List.find?_eq_none.1 hf e he, rfl⟩⟩⟩
  | some e =>
    dsimp only
    cases he : e.banned
    · cases ha : a.banned
      · exact ⟨_, _, rfl, .inl rfl, .inl rfl⟩
      · exact ⟨_, _, rfl, .inl rfl, .inr ⟨rfl, Nat.le_of_not_gt hl, .inr ⟨rfl,
          ⟨e, List.mem_of_find?_eq_some hf, by simpa using List.find?_some hf, he⟩, rfl⟩⟩⟩
    · exact ⟨_, _, rfl, .inl rfl, .inl rfl⟩

theorem migrateOrder_eq (V : Verify) (s : State) (m : Migration) :
    migrateOrder V s m =
      if V s.gcaKey (Migration.signingBytes m) m.sig = true ∧
         ∀ a ∈ m.servers, a.loc.length ≤ 255 ∧ V m.newGCA (AuthServer.signingBytes a) a.sig = true
      then ({ s with migs := s.migs.set m.equipment m }, .ok) else (s, .refused) := by
  unfold migrateOrder
  cases V s.gcaKey (Migration.signingBytes m) m.sig
  · simp
  have hany : (m.servers.any fun a => decide (a.loc.length > 255) || !V m.newGCA (AuthServer.signingBytes a) a.sig) = true ↔
      ¬ ∀ a ∈ m.servers, a.loc.length ≤ 255 ∧ V m.newGCA (AuthServer.signingBytes a) a.sig = true := by
    simp only [List.any_eq_true, Bool.or_eq_true, decide_eq_true_eq, Bool.not_eq_true', Classical.not_forall,
      Classical.not_and_iff_not_or_not, Nat.not_le, Bool.not_eq_true, exists_prop]
  simp only [Bool.not_true, Bool.false_eq_true, if_false, true_and, hany, ite_not]

/-- The impact write as a function on a device entry; it writes `impact` alone, `devAct` writes `reports` alone, so
the two commute by `rfl`. -/
def impactAct (off ts rate : Nat) (dv : Dev) : Dev :=
  { dv with impact := if off ≤ ts ∧ ts - off < window then dv.impact.set (ts - off) rate else dv.impact }

theorem impactWrite_off (s : State) (id ts rate : Nat) : (impactWrite s id ts rate).off = s.off := by
  unfold impactWrite
  split
  · rfl
  · split <;> rfl

theorem impactWrite_get (s : State) (id ts rate k : Nat) :
    (impactWrite s id ts rate).devices.get k =
      (s.devices.get k).map fun dv => if id = k then impactAct s.off ts rate dv else dv := by
  unfold impactWrite
  cases hg : s.devices.get id with
  | none =>
    by_cases e : id = k
    · rw [← e, hg]; rfl
    · simp only [if_neg e, Option.map_id']
  | some dv =>
    dsimp only
    refine get_eq_map_at (fun k dv => if id = k then impactAct s.off ts rate dv else dv) hg ?_ ?_
      (fun _ _ e => if_neg e) k
    · rw [if_pos rfl]; unfold impactAct; split
      · exact get_set_same
      · exact hg
    · split
      · exact fun _ => get_set_ne
      · exact fun _ _ => rfl

theorem step_restart (cfg : Cfg) (V : Verify) (sgn : Bytes → Bytes) (s : State) (fresh : Key) (now : Nat) :
    step cfg V sgn s (.restart fresh now) =
      match load cfg V sgn s.disk s.tempKey fresh now with
      | none => (s, .startFailed)
      | some s' => (s', .ok) := rfl

theorem run_cons (cfg : Cfg) (V : Verify) (sgn : Bytes → Bytes) (s : State) (op : Op) (ops : List Op) :
    run cfg V sgn s (op :: ops) =
      ((run cfg V sgn (step cfg V sgn s op).1 ops).1,
       (step cfg V sgn s op).2 :: (run cfg V sgn (step cfg V sgn s op).1 ops).2) := rfl

end Gca.Srv
