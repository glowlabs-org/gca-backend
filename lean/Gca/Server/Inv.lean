import Gca.Server.Load
/-
The representation invariant `Inv` of the server state, the well-formedness of operations `OpWF` (values
representable by the Go types that carry them) and the server's own consistency check. `Inv` is the conjunction of
three independent parts (Gca/Server/InvParts.lean). Each write of the server keeps it, hence so do a start (through
`load_rule`), every `Eff` under `OpWF` and every `run`: it holds in every state reachable from a first start.
-/
namespace Gca.Srv

/-- Values the Go types can hold (fixed-size arrays, fixed-width integers). -/
def OpWF : Op → Prop
  | .register k _ => k.length = 32
  | .authorize a => a.WF ∧ Srv.isNaN a.lat = false ∧ Srv.isNaN a.lon = false
  | .restart fresh _ => fresh.length = 32
  | .authServer a => a.key.length = 32 ∧ a.sig.length = 64 ∧ a.http < 2^16 ∧ a.tcp < 2^16 ∧ a.udp < 2^16
  | .migrate m => m.equipment.length = 32 ∧ m.newGCA.length = 32 ∧ m.newId < 2^32 ∧ m.sig.length = 64
  | _ => True

structure Inv (s : State) : Prop where
  /-- every device entry sits under its own id and has full-length arrays -/
  devOk    : ∀ id d, s.devices.get id = some d → d.auth.id = id ∧ d.reports.length = window ∧ d.impact.length = window
  /-- equipment → public-key index -/
  devShort : ∀ id d, s.devices.get id = some d → s.shortIds.get d.auth.key = some id
  /-- public-key index → equipment -/
  shortDev : ∀ k id, s.shortIds.get k = some id → ∃ d, s.devices.get id = some d ∧ d.auth.key = k
  /-- banned ids have no equipment entry -/
  banned   : ∀ id, id ∈ s.bans → s.devices.get id = none
  devNodup   : (s.devices.map (·.1)).Nodup
  shortNodup : (s.shortIds.map (·.1)).Nodup
  /-- weeks are archived contiguously from week 0 and the window starts right after them -/
  offHist  : s.off = week * s.history.length
  histTso  : ∀ k (h : k < s.history.length), (s.history[k]).tso = week * k
  histDisk : s.disk.weeks = s.history
  /-- no registered GCA: zero key in memory, no (or an empty) key file -/
  gcaUn    : s.gcaAvail = false → s.gcaKey = zeros 32 ∧ (s.disk.gcaKey = none ∨ s.disk.gcaKey = some [])
  /-- registered GCA: the key file holds exactly the key in memory -/
  gcaAv    : s.gcaAvail = true → s.disk.gcaKey = some s.gcaKey ∧ s.gcaKey.length = 32

/-- The consistency check the server runs on itself (`CheckInvariants` in
server/testing.go): equal sizes, unique keys, index maps back, impact entry exists. -/
def CheckInvariants (s : State) : Prop :=
  s.devices.length = s.shortIds.length ∧
  (s.devices.map (fun p => p.2.auth.key)).Nodup ∧
  ∀ id d, (id, d) ∈ s.devices → s.shortIds.get d.auth.key = some id

theorem Inv.maps {s : State} (h : Inv s) : MapsInv s.devices s.shortIds s.bans :=
  ⟨h.devOk, h.devShort, h.shortDev, h.banned, h.devNodup, h.shortNodup⟩

theorem Inv.hist {s : State} (h : Inv s) : HistInv s.off s.history s.disk.weeks :=
  ⟨h.offHist, h.histTso, h.histDisk⟩

theorem Inv.gca {s : State} (h : Inv s) : GcaInv s.gcaKey s.gcaAvail s.disk.gcaKey :=
  ⟨h.gcaUn, h.gcaAv⟩

theorem Inv.ofParts {s : State} (hm : MapsInv s.devices s.shortIds s.bans)
    (hh : HistInv s.off s.history s.disk.weeks) (hg : GcaInv s.gcaKey s.gcaAvail s.disk.gcaKey) : Inv s :=
  ⟨hm.devOk, hm.devShort, hm.shortDev, hm.banned, hm.devNodup, hm.shortNodup,
   hh.offHist, hh.histTso, hh.histDisk, hg.gcaUn, hg.gcaAv⟩

theorem Inv.off_mod {s : State} (h : Inv s) : s.off % week = 0 := by
  rw [h.offHist]; exact Nat.mul_mod_right _ _

theorem AuthEff.maps {cfg : Cfg} {s s' : State} {a : Auth} (e : AuthEff cfg s a s')
    (hm : MapsInv s.devices s.shortIds s.bans) : MapsInv s'.devices s'.shortIds s'.bans := by
  cases e with
  | conflict _ hc => exact hm.ban hc
  | new hb hc hk => exact hm.add hc hk hb

theorem AuthEff.inv {cfg : Cfg} {s s' : State} {a : Auth} (h : Inv s) (e : AuthEff cfg s a s') : Inv s' := by
  obtain ⟨_, _, _, _, rfl⟩ := e.frame
  exact .ofParts (e.maps h.maps) h.hist h.gca

theorem inv_integrate {cfg : Cfg} {s s' : State} {r : Report} {b : Bool} (h : Inv s)
    (hi : integrate cfg s r = some (s', b)) : Inv s' := by
  obtain ⟨d, d', hd, hi', rfl⟩ := integrate_some hi
  cases b with
  | false => exact h
  | true =>
    obtain ⟨ha, hl, him⟩ := integrateDev_keeps hi'
    exact .ofParts (h.maps.setSame hd ha hl (congrArg _ him)) h.hist h.gca

theorem inv_rotate (sgn : Bytes → Bytes) (s : State) (h : Inv s) :
    Inv (rotate sgn s).1 ∧ (rotate sgn s).2 = .ok := by
  rw [rotate_eq sgn h.off_mod]
  exact ⟨.ofParts h.maps.shift (h.hist.push rfl) h.gca, rfl⟩

theorem inv_catchUp (sgn : Bytes → Bytes) (now fuel : Nat) {s : State} (h : Inv s) :
    Inv (catchUp sgn now fuel s).1 ∧ (catchUp sgn now fuel s).2 = .ok :=
  catchUp_rule (Q := (· = .ok)) sgn now rfl (inv_rotate sgn) fuel s h

theorem histInv_of_weeks {ws : List Week} (hw : ∀ k (h : k < ws.length), (ws[k]).tso = week * k) :
    HistInv (loadOff ws) ws ws := by
  refine ⟨?_, hw, rfl⟩
  unfold loadOff
  rcases List.eq_nil_or_concat ws with rfl | ⟨l, a, e⟩
  · rfl
  · rw [List.concat_eq_append] at e
    subst e
    have := hw l.length (by simp)
    rw [List.getElem_concat_length rfl] at this
    rw [List.getLast?_concat, List.length_append, Nat.mul_add, ← this]; rfl

theorem foldl_replayAuth_maps (cfg : Cfg) (l : List Auth) (s : State) (h : MapsInv s.devices s.shortIds s.bans) :
    MapsInv (l.foldl (replayAuth cfg) s).devices (l.foldl (replayAuth cfg) s).shortIds
      (l.foldl (replayAuth cfg) s).bans :=
  foldl_replayAuth_rule (P := fun x => MapsInv x.devices x.shortIds x.bans) l (fun _ _ _ _ hx e => e.maps hx) h

/-- Whatever is on disk, a start that succeeds yields a state satisfying the invariant, provided the
archived weeks on disk are contiguous (which `Inv` guarantees for every disk the server itself wrote). -/
theorem inv_load {cfg : Cfg} {V : Verify} {sgn : Bytes → Bytes} {d : Disk} {tempKey fresh : Key} {now : Nat}
    {s : State} (h : load cfg V sgn d tempKey fresh now = some s)
    (hw : ∀ k (h : k < d.weeks.length), (d.weeks[k]).tso = week * k) : Inv s :=
  load_rule (fun _ _ _ _ => AuthEff.inv) (fun _ _ _ _ => inv_integrate) (fun x hx => (inv_rotate sgn x hx).1)
    (fun _ _ hg _ => .ofParts MapsInv.nil (histInv_of_weeks hw) hg) h

theorem inv_eff {cfg : Cfg} {V : Verify} {sgn : Bytes → Bytes} {s s' : State} {op : Op}
    (h : Inv s) (hop : OpWF op) (e : Eff cfg V sgn s op s') : Inv s' := by
  cases e with
  | same => exact h
  | report _ hi => exact inv_integrate h hi
  | register => exact .ofParts h.maps h.hist ⟨fun h => (nomatch h), fun _ => ⟨rfl, hop⟩⟩
  | auth _ _ e => obtain ⟨_, _, _, _, rfl⟩ := e.frame; exact .ofParts (e.maps h.maps) h.hist h.gca
  | rotate hw => have := (inv_rotate sgn s h).1; rwa [rotate, hw] at this
  | restart hl => exact inv_load hl (h.histDisk ▸ h.histTso)
  | servers | migs => exact .ofParts h.maps h.hist h.gca
  | impact hd => exact .ofParts (h.maps.setSame hd rfl rfl List.length_set) h.hist h.gca

theorem inv_step (cfg : Cfg) (V : Verify) (sgn : Bytes → Bytes) (s : State) (op : Op)
    (h : Inv s) (hop : OpWF op) : Inv (step cfg V sgn s op).1 :=
  inv_eff h hop (step_eff cfg V sgn s op)

theorem inv_run (cfg : Cfg) (V : Verify) (sgn : Bytes → Bytes) {s : State} {ops : List Op}
    (h : Inv s) (hops : ∀ op ∈ ops, OpWF op) : Inv (run cfg V sgn s ops).1 :=
  run_rule (fun _ _ op ho h => inv_eff h (hops op ho)) h

/-- `run_rule` with the invariant at hand at every step. -/
theorem run_induct {P : State → Prop} {cfg : Cfg} {V : Verify} {sgn : Bytes → Bytes} {ops : List Op}
    (hops : ∀ op ∈ ops, OpWF op)
    (hstep : ∀ s s', ∀ op ∈ ops, Inv s → P s → Eff cfg V sgn s op s' → P s')
    {s : State} (hinv : Inv s) (h : P s) : P (run cfg V sgn s ops).1 :=
  (run_rule (P := fun t => Inv t ∧ P t)
    (fun s s' op ho hs e => ⟨inv_eff hs.1 (hops op ho) e, hstep s s' op ho hs.1 hs.2 e⟩) ⟨hinv, h⟩).2

theorem inv_boot {cfg : Cfg} {V : Verify} {sgn : Bytes → Bytes} {tempKey fresh : Key} {now : Nat} {s : State}
    (h : boot cfg V sgn tempKey fresh now = some s) : Inv s :=
  inv_load h fun k hk => absurd hk (Nat.not_lt_zero k)

theorem inv_checkInvariants {s : State} (h : Inv s) : CheckInvariants s := by
  have hmem : ∀ id d, (id, d) ∈ s.devices → s.shortIds.get d.auth.key = some id := fun id d hm =>
    h.devShort id d (FMap.get_of_mem_nodup h.devNodup hm)
  -- distinct devices have distinct keys
  have hkeys : (s.devices.map (fun p => p.2.auth.key)).Nodup := by
    refine List.pairwise_map.mpr ((List.pairwise_map.mp h.devNodup).imp_of_mem ?_)
    intro a b ha hb hne e
    have h1 := hmem a.1 a.2 ha
    rw [e, hmem b.1 b.2 hb] at h1
    exact hne (Option.some.inj h1).symm
  -- the keys in use are exactly the keys of the index, so the two maps have the same size
  have hperm : (s.devices.map (fun p => p.2.auth.key)).Perm (s.shortIds.map (·.1)) := by
    refine (List.perm_ext_iff_of_nodup hkeys h.shortNodup).mpr fun k => ⟨fun hk => ?_, fun hk => ?_⟩
    · obtain ⟨p, hp, rfl⟩ := List.mem_map.mp hk
      rw [FMap.mem_keys_iff, hmem p.1 p.2 hp]; rfl
    · rw [FMap.mem_keys_iff, Option.isSome_iff_exists] at hk
      obtain ⟨id, hid⟩ := hk
      obtain ⟨d, hd, rfl⟩ := h.shortDev k id hid
      exact List.mem_map.mpr ⟨_, FMap.get_some_mem hd, rfl⟩
  exact ⟨by simpa using hperm.length_eq, hkeys, hmem⟩

end Gca.Srv
