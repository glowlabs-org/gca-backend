import Gca.Server.Ops
/-
The invariant `Inv` of `Gca/Server/Inv.lean` in three independent parts: the device maps (`MapsInv`), the archive
(`HistInv`), the GCA key (`GcaInv`). Every write of the server touches one part, so each part comes with the
writes that keep it: replacing, banning, adding and shifting devices; archiving a week; and the key file
determines key and flag. The fields are those of `Inv`, where each is explained.
-/
namespace Gca.Srv
open FMap

structure MapsInv (dv : FMap Nat Dev) (sh : FMap Key Nat) (bn : List Nat) : Prop where
  devOk    : ∀ id d, dv.get id = some d → d.auth.id = id ∧ d.reports.length = window ∧ d.impact.length = window
  devShort : ∀ id d, dv.get id = some d → sh.get d.auth.key = some id
  shortDev : ∀ k id, sh.get k = some id → ∃ d, dv.get id = some d ∧ d.auth.key = k
  banned   : ∀ id, id ∈ bn → dv.get id = none
  devNodup   : (dv.map (·.1)).Nodup
  shortNodup : (sh.map (·.1)).Nodup

structure HistInv (off : Nat) (history dweeks : List Week) : Prop where
  offHist  : off = week * history.length
  histTso  : ∀ k (h : k < history.length), (history[k]).tso = week * k
  histDisk : dweeks = history

/-- `dk` is the content of the key file (`Disk.gcaKey`: absent, empty, or some bytes). -/
structure GcaInv (gcaKey : Key) (avail : Bool) (dk : Option Bytes) : Prop where
  gcaUn : avail = false → gcaKey = zeros 32 ∧ (dk = none ∨ dk = some [])
  gcaAv : avail = true → dk = some gcaKey ∧ gcaKey.length = 32

theorem GcaInv.unique {k k' : Key} {av av' : Bool} {dk : Option Bytes} (h : GcaInv k av dk)
    (h' : GcaInv k' av' dk) : k' = k ∧ av' = av := by
  have hne : ∀ {k av k' av'}, GcaInv k av dk → GcaInv k' av' dk → av = true → av' = false → False := by
    intro k av k' av' h h' ht hf
    obtain ⟨hd, hl⟩ := h.gcaAv ht
    rcases (h'.gcaUn hf).2 with e | e <;> rw [hd] at e
    · cases e
    · rw [Option.some.inj e] at hl; cases hl
  cases av <;> cases av'
  · exact ⟨(h'.gcaUn rfl).1.trans (h.gcaUn rfl).1.symm, rfl⟩
  · exact (hne h' h rfl rfl).elim
  · exact (hne h h' rfl rfl).elim
  · exact ⟨Option.some.inj ((h'.gcaAv rfl).1.symm.trans (h.gcaAv rfl).1), rfl⟩

theorem HistInv.push {off : Nat} {hist dw : List Week} (h : HistInv off hist dw) {w : Week} (ht : w.tso = off) :
    HistInv (off + week) (hist ++ [w]) (dw ++ [w]) := by
  refine ⟨?_, fun k hk => ?_, by rw [h.histDisk]⟩
  · rw [List.length_append, h.offHist]; rfl
  · by_cases hlt : k < hist.length
    · rw [List.getElem_append_left hlt]; exact h.histTso k hlt
    · rw [List.length_append] at hk
      rw [List.getElem_append_right (Nat.not_lt.mp hlt), List.getElem_singleton, ht, h.offHist,
        Nat.le_antisymm (Nat.not_lt.mp hlt) (Nat.le_of_lt_succ hk)]

theorem MapsInv.nil : MapsInv [] [] [] := by
  constructor <;> simp

theorem MapsInv.setSame {dv sh bn} (h : MapsInv dv sh bn) {id : Nat} {d d' : Dev}
    (hg : dv.get id = some d) (ha : d'.auth = d.auth)
    (hr : d'.reports.length = d.reports.length) (hi : d'.impact.length = d.impact.length) :
    MapsInv (dv.set id d') sh bn := by
  have hd := h.devOk id d hg
  refine ⟨?devOk, ?devShort, ?shortDev, ?banned, nodup_set h.devNodup, h.shortNodup⟩
  case devOk =>
    intro i x hx
    by_cases e : id = i
    · subst e
      rw [get_set_same] at hx
      cases hx
      exact ⟨ha ▸ hd.1, hr.trans hd.2.1, hi.trans hd.2.2⟩
    · rw [get_set_ne e] at hx
      exact h.devOk i x hx
  case devShort =>
    intro i x hx
    by_cases e : id = i
    · subst e
      rw [get_set_same] at hx
      cases hx
      rw [ha]; exact h.devShort id d hg
    · rw [get_set_ne e] at hx
      exact h.devShort i x hx
  case shortDev =>
    intro k i hk
    obtain ⟨x, hx, hxk⟩ := h.shortDev k i hk
    by_cases e : id = i
    · subst e
      rw [hg] at hx; cases hx
      exact ⟨d', get_set_same, by rw [ha]; exact hxk⟩
    · exact ⟨x, by rw [get_set_ne e]; exact hx, hxk⟩
  case banned =>
    intro i hi'
    have := h.banned i hi'
    by_cases e : id = i
    · subst e; rw [hg] at this; cases this
    · rw [get_set_ne e]; exact this

theorem MapsInv.ban {dv sh bn} (h : MapsInv dv sh bn) {id : Nat} {cur : Dev}
    (hg : dv.get id = some cur) :
    MapsInv (dv.del id) (sh.del cur.auth.key) (bn ++ [id]) := by
  have hcs := h.devShort id cur hg
  refine ⟨?devOk, ?devShort, ?shortDev, ?banned, nodup_del h.devNodup, nodup_del h.shortNodup⟩
  case devOk =>
    intro i x hx
    by_cases e : id = i
    · subst e; rw [get_del_same] at hx; cases hx
    · rw [get_del_ne e] at hx
      exact h.devOk i x hx
  case devShort =>
    intro i x hx
    by_cases e : id = i
    · subst e; rw [get_del_same] at hx; cases hx
    · rw [get_del_ne e] at hx
      have hs := h.devShort i x hx
      have hk : cur.auth.key ≠ x.auth.key := by
        intro ek
        rw [ek, hs] at hcs
        cases hcs; exact e rfl
      rw [get_del_ne hk]; exact hs
  case shortDev =>
    intro k i hk
    by_cases ek : cur.auth.key = k
    · subst ek; rw [get_del_same] at hk; cases hk
    · rw [get_del_ne ek] at hk
      obtain ⟨x, hx, hxk⟩ := h.shortDev k i hk
      have e : id ≠ i := by
        intro e; subst e
        rw [hg] at hx; cases hx
        exact ek hxk
      exact ⟨x, by rw [get_del_ne e]; exact hx, hxk⟩
  case banned =>
    intro i hi
    by_cases e : id = i
    · subst e; exact get_del_same
    · rw [get_del_ne e]
      rcases List.mem_append.mp hi with hi | hi
      · exact h.banned i hi
      · simp at hi; exact absurd hi.symm e

theorem newDev_ok (a : Auth) :
    (newDev a).auth = a ∧ (newDev a).reports.length = window ∧ (newDev a).impact.length = window := by
  simp [newDev, blankReports, blankImpact]

theorem MapsInv.add {dv sh bn} (h : MapsInv dv sh bn) {a : Auth}
    (hg : dv.get a.id = none) (hk : sh.get a.key = none) (hb : a.id ∉ bn) :
    MapsInv (dv.set a.id (newDev a)) (sh.set a.key a.id) bn := by
  obtain ⟨na, nr, ni⟩ := newDev_ok a
  refine ⟨?devOk, ?devShort, ?shortDev, ?banned, nodup_set h.devNodup, nodup_set h.shortNodup⟩
  case devOk =>
    intro i x hx
    by_cases e : a.id = i
    · subst e
      rw [get_set_same] at hx; cases hx
      exact ⟨by rw [na], nr, ni⟩
    · rw [get_set_ne e] at hx
      exact h.devOk i x hx
  case devShort =>
    intro i x hx
    by_cases e : a.id = i
    · subst e
      rw [get_set_same] at hx; cases hx
      exact get_set_same
    · rw [get_set_ne e] at hx
      have hs := h.devShort i x hx
      have hne : a.key ≠ x.auth.key := by
        intro ek; rw [← ek, hk] at hs; cases hs
      rw [get_set_ne hne]; exact hs
  case shortDev =>
    intro k i hki
    by_cases ek : a.key = k
    · subst ek
      rw [get_set_same] at hki; cases hki
      exact ⟨newDev a, get_set_same, by rw [na]⟩
    · rw [get_set_ne ek] at hki
      obtain ⟨x, hx, hxk⟩ := h.shortDev k i hki
      have e : a.id ≠ i := by
        intro e; subst e; rw [hg] at hx; cases hx
      exact ⟨x, by rw [get_set_ne e]; exact hx, hxk⟩
  case banned =>
    intro i hi
    have hb' := h.banned i hi
    by_cases e : a.id = i
    · subst e; exact absurd hi hb
    · rw [get_set_ne e]; exact hb'

theorem MapsInv.shift {dv sh bn} (h : MapsInv dv sh bn) :
    MapsInv (dv.map (fun p => (p.1, shiftDev p.2))) sh bn := by
  constructor
  · intro i x hx
    rw [get_map_val] at hx
    obtain ⟨d, hg, rfl⟩ := Option.map_eq_some_iff.mp hx
    obtain ⟨h1, h2, h3⟩ := h.devOk i d hg
    exact ⟨h1, shiftList_length h2, shiftList_length h3⟩
  · intro i x hx
    rw [get_map_val] at hx
    obtain ⟨d, hg, rfl⟩ := Option.map_eq_some_iff.mp hx
    exact h.devShort i d hg
  · intro k i hk
    obtain ⟨x, hx, hxk⟩ := h.shortDev k i hk
    exact ⟨shiftDev x, by rw [get_map_val, hx]; rfl, hxk⟩
  · intro i hi
    rw [get_map_val, h.banned i hi]; rfl
  · rw [List.map_map]; exact h.devNodup
  · exact h.shortNodup

end Gca.Srv
